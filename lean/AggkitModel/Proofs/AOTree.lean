import AggkitModel.Proofs.Merkle
/-
The append-only tree object + its tables refine "a list of leaves": invariant `AOInv`, preserved by AddLeaf at the next
index (any count, any carry pattern; a stale cache is rebuilt from the tables first, `addLeaf_pre`), by a store fault inside
AddLeaf and by dropping the newest root rows (`AOInv.take`); the in-memory object may be exchanged for any that satisfies
`MemOK` (restart, rollback: Proofs/TreeHistory); every recorded version is served (`AOInv.served`).
-/
namespace Aggkit
variable {α : Type}

/-- root hash of the version holding the first `m` leaves -/
def vroot (H : HashAlg α) (n : Nat) (ls : List α) (m : Nat) : α := tn H (leafFn H (ls.take m)) n 0

theorem vroot_eq_specRoot (H : HashAlg α) (n : Nat) (ls : List α) (m : Nat) :
    vroot H n ls m = specRoot H n (ls.take m) := by simp [vroot, specRoot, tn]

theorem vroot_append (H : HashAlg α) (n : Nat) (ls l2 : List α) (m : Nat) (hm : m ≤ ls.length) :
    vroot H n (ls ++ l2) m = vroot H n ls m := by
  rw [vroot, vroot, List.take_append_of_le_length hm]

def RootsOK (H : HashAlg α) (n : Nat) (db : TreeDb α) (ls : List α) : Prop :=
  db.roots.length = ls.length ∧
  ∀ i, i < ls.length → ∃ r, db.roots[i]? = some r ∧ r.hash = vroot H n ls (i+1) ∧ r.index = i

theorem getRootByIndex_spec {H : HashAlg α} {n : Nat} {db : TreeDb α} {ls : List α}
    (hr : RootsOK H n db ls) {i : Nat} (hi : i < ls.length) :
    ∃ r, getRootByIndex db i = some r ∧ r.hash = vroot H n ls (i+1) ∧ r.index = i := by
  obtain ⟨r, h1, h2, h3⟩ := hr.2 i hi
  refine ⟨r, ?_, h2, h3⟩
  obtain ⟨hil, rfl⟩ := List.getElem?_eq_some_iff.mp h1
  rw [getRootByIndex, List.find?_eq_some_iff_getElem]
  refine ⟨decide_eq_true h3, i, hil, rfl, fun j hj => ?_⟩
  obtain ⟨r', g1, _, g3⟩ := hr.2 j (by omega)
  obtain ⟨_, rfl⟩ := List.getElem?_eq_some_iff.mp g1
  rw [Bool.not_eq_true', decide_eq_false_iff_not, g3]
  omega

variable [DecidableEq α]

def Sorted (db : TreeDb α) : Prop := db.roots.Pairwise (fun a b => b.after a = true)

structure AOInv (H : HashAlg α) (n : Nat) (t : AOT α) (db : TreeDb α) (ls : List α) : Prop where
  cons : Consistent H db.rht
  closed : ∀ m, m ≤ ls.length → Closed H n db.rht (leafFn H (ls.take m)) (fun p => p < m)
  roots : RootsOK H n db ls
  sorted : Sorted db
  frontier : t.lastIndex + 1 = ls.length → FrontierOK H n (leafFn H ls) t.cache ls.length
  ge : t.lastIndex = -2 ∨ (ls.length : Int) ≤ t.lastIndex + 1
  nonzero : ∀ v ∈ ls, v ≠ H.zero
  bound : ls.length ≤ 2^n

/-- the part of the invariant that concerns the in-memory object only -/
def MemOK (H : HashAlg α) (n : Nat) (t : AOT α) (ls : List α) : Prop :=
  (t.lastIndex + 1 = ls.length → FrontierOK H n (leafFn H ls) t.cache ls.length) ∧
  (t.lastIndex = -2 ∨ (ls.length : Int) ≤ t.lastIndex + 1)

section
variable {H : HashAlg α} {n : Nat} {t : AOT α} {db : TreeDb α} {ls : List α}

theorem AOInv.change_t (inv : AOInv H n t db ls) (t' : AOT α) (hm : MemOK H n t' ls) : AOInv H n t' db ls :=
  { inv with frontier := hm.1, ge := hm.2 }

theorem AOInv.memOK (inv : AOInv H n t db ls) : MemOK H n t ls := ⟨inv.frontier, inv.ge⟩

/-- `Reorg` drops the newest root rows. The in-memory object needs no repair: its index is invalid or not below the old
    count, so it cannot pass for the frontier of the shorter list -/
theorem AOInv.take (inv : AOInv H n t db ls) (k : Nat) : AOInv H n t { db with roots := db.roots.take k } (ls.take k) := by
  rcases Nat.lt_or_ge k ls.length with hk | hk
  · have hlen : (ls.take k).length = k := List.length_take_of_le (Nat.le_of_lt hk)
    have hge := inv.ge
    have htt : ∀ m, m ≤ k → (ls.take k).take m = ls.take m := fun m hm => by
      rw [List.take_take, Nat.min_eq_left hm]
    refine ⟨inv.cons, ?_, ⟨?_, ?_⟩, inv.sorted.sublist (List.take_sublist _ _), fun h => ?_, ?_,
      fun v hv => inv.nonzero v (List.mem_of_mem_take hv), ?_⟩
    · intro m hm
      rw [hlen] at hm
      rw [htt m hm]
      exact inv.closed m (Nat.le_trans hm (Nat.le_of_lt hk))
    · rw [hlen]
      exact List.length_take_of_le (inv.roots.1 ▸ Nat.le_of_lt hk)
    · intro i hi
      rw [hlen] at hi
      obtain ⟨r, hr1, hr2, hr3⟩ := inv.roots.2 i (Nat.lt_trans hi hk)
      refine ⟨r, ?_, ?_, hr3⟩
      · show (db.roots.take k)[i]? = some r
        rw [List.getElem?_take_of_lt hi, hr1]
      · rw [hr2, vroot, vroot, htt _ hi]
    · rw [hlen] at h
      omega
    · rw [hlen]
      omega
    · rw [hlen]
      exact Nat.le_trans (Nat.le_of_lt hk) inv.bound
  · rw [List.take_of_length_le hk, List.take_of_length_le (inv.roots.1 ▸ hk)]
    exact inv

variable (hinj : H.Inj) (inv : AOInv H n t db ls)
include hinj inv

theorem initCache_ok :
    ∃ t', initCache H n db = .ok t' ∧ t'.lastIndex + 1 = ls.length ∧
      FrontierOK H n (leafFn H ls) t'.cache ls.length := by
  unfold initCache
  rcases List.eq_nil_or_concat db.roots with hnil | ⟨rs, r, hrs⟩
  · have hl : ls.length = 0 := by
      rw [← inv.roots.1, hnil]
      rfl
    simp only [getLastRoot, hnil, List.foldl_nil]
    exact ⟨_, rfl, by simp [hl], by simp, fun h _ hb => by simp [hl] at hb⟩
  · -- the last root row is the version with all leaves
    rw [List.concat_eq_append] at hrs
    have hlen : ls.length = rs.length + 1 := by
      rw [← inv.roots.1, hrs]
      simp
    obtain ⟨r', hr1, hr2, hr3⟩ := inv.roots.2 rs.length (by omega)
    rw [hrs, List.getElem?_concat_length, Option.some.injEq] at hr1
    subst hr1
    have hs := inv.sorted
    rw [Sorted, hrs, List.pairwise_append] at hs
    rw [getLastRoot_concat db rs r hrs (fun x hx => hs.2.2 x hx r (by simp))]
    have hcl := inv.closed ls.length (Nat.le_refl _)
    rw [vroot, ← hlen] at hr2
    rw [List.take_length] at hcl hr2
    have hw := initWalk_spec hinj inv.cons hcl rs.length (by omega) n [] (Nat.le_refl _)
    have hbd := inv.bound
    rw [Nat.div_eq_of_lt (by omega), ← hr2, ← hr3] at hw
    simp only [hw]
    refine ⟨_, rfl, by simp [hr3, hlen], ?_⟩
    rw [hlen, hr3, List.append_nil]
    exact frontier_of_initWalk H n (leafFn H ls) rs.length

/-- what `AddLeaf` works with after its optional `initCache`, unless it trusts a stale `lastIndex`: a valid frontier -/
theorem addLeaf_pre (idx : Nat) (h : (idx : Int) ≠ t.lastIndex + 1 ∨ t.lastIndex + 1 = ls.length) :
    ∃ t1, (if (idx : Int) ≠ t.lastIndex + 1 then initCache H n db else .ok t) = .ok t1 ∧
      t1.lastIndex + 1 = ls.length ∧ FrontierOK H n (leafFn H ls) t1.cache ls.length := by
  split
  · exact initCache_ok hinj inv
  · rename_i e
    exact ⟨t, rfl, h.resolve_left e, inv.frontier (h.resolve_left e)⟩

theorem AOInv.served (m i : Nat) (hm : m ≤ ls.length) (hi : i < m) :
    getLeaf n db i (vroot H n ls m) = .ok (ls.getD i H.zero) ∧
    calcRoot H (ls.getD i H.zero) (getProof H n db i (vroot H n ls m)) i = vroot H n ls m := by
  have hbd := inv.bound
  have := served_spec hinj inv.cons (inv.closed m hm)
    (fun j hj => leafFn_ge H _ j (by rw [List.length_take]; omega)) (show i < 2^n by omega) hi
  rwa [leafFn_take_lt H ls m i hi] at this

/-- **AddLeaf refines append**: with the invariant, the next index, a non-zero leaf and a position
    after the last root row, AddLeaf succeeds and the invariant holds for `ls ++ [v]`. -/
theorem addLeaf_ok (bn bp : Nat) (v : α) (hv : v ≠ H.zero) (hb : ls.length < 2^n)
    (hafter : ∀ r ∈ db.roots, r.blockNum < bn ∨ (r.blockNum = bn ∧ r.blockPos < bp)) :
    ∃ t' db', addLeaf H n t db bn bp ls.length v = (t', .ok db') ∧ AOInv H n t' db' (ls ++ [v]) ∧
      db'.roots = db.roots ++ [⟨vroot H n (ls ++ [v]) (ls.length + 1), ls.length, bn, bp⟩] := by
  obtain ⟨t1, hpre, hidx, hfr⟩ := addLeaf_pre hinj inv ls.length (by omega)
  obtain ⟨hroot, hnodes, hfr'⟩ := addLoop_full H n (leafFn H ls) ls.length v t1.cache (leafFn_ge H ls) hfr
  have htk : (ls ++ [v]).take (ls.length + 1) = ls ++ [v] := List.take_of_length_le (by simp)
  rw [leafFn_append] at hroot hnodes hfr'
  rw [Nat.div_eq_of_lt hb, ← htk] at hroot
  change _ = vroot H n (ls ++ [v]) (ls.length + 1) at hroot
  have hcl := inv.closed ls.length (Nat.le_refl _)
  rw [List.take_length] at hcl
  -- the new root hash is not yet in the root table (primary key): equal roots have equal leaves at
  -- position `ls.length`, which is `v` in the new version and zero in every stored one
  have hfresh : db.roots.any (fun x => x.hash = vroot H n (ls ++ [v]) (ls.length + 1)) = false := by
    rw [Bool.eq_false_iff, Ne, List.any_eq_true]
    rintro ⟨x, hx, hxe⟩
    obtain ⟨i, hi, rfl⟩ := List.getElem_of_mem hx
    rw [inv.roots.1] at hi
    obtain ⟨r, hr1, hr2, _⟩ := inv.roots.2 i hi
    rw [List.getElem?_eq_getElem (inv.roots.1 ▸ hi), Option.some.injEq] at hr1
    rw [decide_eq_true_eq, hr1, hr2] at hxe
    have := tn_inj H _ hinj _ n 0 hxe ls.length (Nat.div_eq_of_lt hb)
    rw [htk, leafFn_length, leafFn_ge H (ls.take (i+1)) ls.length (List.length_take_le' _ _)] at this
    exact hv this.symm
  refine ⟨{ t1 with cache := (addLoop H ls.length n 0 t1.cache v []).1, lastIndex := t1.lastIndex + 1 },
    { roots := db.roots ++ [⟨vroot H n (ls ++ [v]) (ls.length + 1), ls.length, bn, bp⟩],
      rht := storeNodes db.rht (pathNodes H n (leafFn H (ls ++ [v])) ls.length) }, ?_, ?_, rfl⟩
  · unfold addLeaf
    simp only [hpre]
    rw [if_neg (by omega)]
    -- name the loop's result as a triple, so that `let (c, root, nodes) := …` in `addLeaf` reduces
    rw [show addLoop H ls.length n 0 t1.cache v [] = (_, _, _) from rfl]
    simp only [hroot, hnodes, storeRoot, hfresh, Bool.false_eq_true, if_false, pathNodes]
  · have hlen : (ls ++ [v]).length = ls.length + 1 := by simp
    have hge : (((ls ++ [v]).length : Nat) : Int) ≤ t1.lastIndex + 1 + 1 := by omega
    refine ⟨storeNodes_consistent inv.cons (pathNodes_consistent H n _ _), fun m hm => ?_,
      ⟨by simp [inv.roots.1], fun i hi => ?_⟩, pairwise_concat inv.sorted fun a ha => RootRow.after_iff.mpr (hafter a ha),
      fun _ => hlen ▸ hfr', Or.inr hge, forall_mem_concat.mpr ⟨inv.nonzero, hv⟩, by omega⟩
    · rcases Nat.lt_or_ge ls.length m with hm' | hm'
      · obtain rfl : m = ls.length + 1 := Nat.le_antisymm (hlen ▸ hm) hm'
        have hc := closed_update ls.length v hcl
        rw [leafFn_append] at hc
        rw [htk]
        exact fun h q hh ⟨p, hp, hpq⟩ => hc h q hh ⟨p, Nat.lt_succ_iff_lt_or_eq.mp hp, hpq⟩
      · rw [List.take_append_of_le_length hm']
        exact closed_mono (inv.closed m hm')
    · rcases Nat.lt_or_ge i ls.length with hi' | hi'
      · obtain ⟨r, hr1, hr2, hr3⟩ := inv.roots.2 i hi'
        exact ⟨r, (List.getElem?_append_left (inv.roots.1 ▸ hi')).trans hr1,
          hr2.trans (vroot_append H n ls [v] (i+1) hi').symm, hr3⟩
      · obtain rfl : i = ls.length := by omega
        exact ⟨_, inv.roots.1 ▸ List.getElem?_concat_length, rfl, rfl⟩

theorem addLeafStoreFault_memOK (v : α) :
    MemOK H n (addLeafStoreFault H n t db ls.length v) ls := by
  obtain ⟨t1, h1, h2, h3⟩ := addLeaf_pre hinj inv ls.length (by omega)
  unfold addLeafStoreFault
  simp only [h1]
  rw [if_neg (by omega)]
  exact ⟨fun _ => addLoop_keeps_frontier v (leafFn_ge H ls) h3, Or.inr (by simp; omega)⟩

end

end Aggkit
