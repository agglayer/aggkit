import AggkitModel.Model.BridgeStore
/-
What the pieces of the bridge store's `ProcessBlock` do, in the form the properties C04, C07 and C14 use.
-/
namespace Aggkit.BridgeStore
open Aggkit
variable {α : Type}

theorem rowResult_insertRow (fault : Option Nat) (w : Work α) (r : Row) :
    rowResult w (insertRow fault w r) = (w, false, some .fault) ∨
    rowResult w (insertRow fault w r) = (w, false, some .constraint) ∨
    rowResult w (insertRow fault w r) = ({ w with rows := w.rows ++ [r], stmts := w.stmts + 1 }, false, none) := by
  fun_cases insertRow fault w r
  · exact .inl rfl
  · exact .inr (.inl rfl)
  · exact .inr (.inr rfl)

variable [DecidableEq α]

theorem step_add_snap {H : HashAlg α} {n : Nat} {tm tm' : TM α} {bn pos dc : Nat} {leaf : α} {o : TMOut α}
    (h : TM.step H n tm (.add bn pos dc leaf) = (tm', o)) : tm'.snap = tm.snap := by
  rw [← congrArg (·.1.snap) h, TM.step]
  split
  · rfl
  · rw [TM.doAdd]
    split <;> rfl

theorem procEvent_spec (H : HashAlg α) (n : Nat) (fault : Option Nat) (bn : Nat) (w : Work α) (e : Ev α) :
    (procEvent H n fault bn w e).1.tm.snap = w.tm.snap ∧
    ((procEvent H n fault bn w e).2.1 = true ↔ (procEvent H n fault bn w e).2.2 = some .inconsistent) ∧
    ((∀ pos addr, e ≠ .rmLegacy pos addr) →
      ∃ extra, (procEvent H n fault bn w e).1.rows = w.rows ++ extra ∧ ∀ r ∈ extra, r.blockNum = bn) := by
  have hnil : ∃ extra, w.rows = w.rows ++ extra ∧ ∀ r ∈ extra, r.blockNum = bn :=
    ⟨[], (List.append_nil _).symm, fun _ hx => nomatch hx⟩
  have hrow : ∀ (w1 : Work α) r, r.blockNum = bn → w1.rows = w.rows →
      (rowResult w1 (insertRow fault w1 r)).1.tm.snap = w1.tm.snap ∧
      ((rowResult w1 (insertRow fault w1 r)).2.1 = true ↔ (rowResult w1 (insertRow fault w1 r)).2.2 = some .inconsistent) ∧
      ∃ extra, (rowResult w1 (insertRow fault w1 r)).1.rows = w.rows ++ extra ∧ ∀ x ∈ extra, x.blockNum = bn := by
    intro w1 r hr hw
    rcases rowResult_insertRow fault w1 r with h | h | h <;> rw [h, ← hw]
    · exact ⟨rfl, by simp, hw ▸ hnil⟩
    · exact ⟨rfl, by simp, hw ▸ hnil⟩
    · exact ⟨rfl, by simp, [r], rfl, fun x hx => by rw [List.mem_singleton.mp hx, hr]⟩
  fun_cases procEvent H n fault bn w e
  -- bridge event: the AddLeaf is hit by the fault / succeeds, then the row insert / fails (three error classes)
  case case1 => fun_cases addFaulted <;> exact ⟨rfl, by simp, fun _ => hnil⟩
  case case2 tm' hst _ =>
    rw [← step_add_snap hst]
    exact And.imp_right (And.imp_right fun h _ => h) (hrow _ _ rfl rfl)
  case case3 | case4 | case5 => exact ⟨step_add_snap ‹_›, by simp, fun _ => hnil⟩
  -- claim, token mapping, legacy migration: one row insert
  case case6 | case7 | case8 => exact And.imp_right (And.imp_right fun h _ => h) (hrow _ _ rfl rfl)
  -- legacy-token removal, hit by the fault or not
  case case9 | case10 => exact ⟨rfl, by simp, fun hnot => absurd rfl (hnot _ _)⟩

theorem procEvents_spec (H : HashAlg α) (n : Nat) (fault : Option Nat) (bn : Nat) (w : Work α) (es : List (Ev α)) :
    (procEvents H n fault bn w es).1.tm.snap = w.tm.snap ∧
    ((procEvents H n fault bn w es).2.1 = true ↔ (procEvents H n fault bn w es).2.2 = some .inconsistent) := by
  fun_induction procEvents H n fault bn w es
  -- no event left / the first event succeeds / it fails and its result is returned
  case case1 => simp
  case case2 w e es w' hl heq ih =>
    have := (procEvent_spec H n fault bn w e).1
    rw [heq] at this
    rw [← this]
    exact ih
  case case3 => exact ⟨(procEvent_spec ..).1, (procEvent_spec ..).2.1⟩

theorem processBlock_halted (H : HashAlg α) (n : Nat) (s : BP α) (b : Block α) (f : Option Nat)
    (h : s.halted = true) : processBlock H n s b f = (s, .inconsistent) :=
  if_pos h

/-- a processor that is not halted opens the transaction and ends in `finishBlock`: a failing `INSERT INTO block` and a
    duplicate block are the event loop failing before its first event -/
theorem processBlock_eq (H : HashAlg α) (n : Nat) (s : BP α) (b : Block α) (fault : Option Nat) (hh : s.halted = false) :
    ∃ res, processBlock H n s b fault = finishBlock H n s b res ∧
      res.1.tm.snap = (TM.step H n s.tm .begin).1.snap ∧ (res.2.1 = true ↔ res.2.2 = some .inconsistent) := by
  have hrb : ∀ e, (rolledBack H n s, e) =
      finishBlock H n s b ({ tm := (TM.step H n s.tm .begin).1, rows := s.rows, stmts := 1 }, false, some e) := by
    intro e
    -- with the `false` of the triple read as `s.halted`, `finishBlock` only replaces `tm`
    rw [← hh]
    rfl
  fun_cases processBlock H n s b fault
  -- halted (not here); `INSERT INTO block` hits the fault; duplicate block; the event loop runs
  · exact absurd ‹_› (ne_true_of_eq_false hh)
  · exact ⟨_, hrb _, rfl, by simp⟩
  · exact ⟨_, hrb _, rfl, by simp⟩
  · exact ⟨_, rfl, procEvents_spec ..⟩

theorem processBlock_halted_iff (H : HashAlg α) (n : Nat) (s : BP α) (b : Block α) (fault : Option Nat) :
    (processBlock H n s b fault).1.halted = true ↔ (processBlock H n s b fault).2 = .inconsistent := by
  cases hh : s.halted with
  | true =>
    rw [processBlock_halted H n s b fault hh]
    simpa
  | false =>
    obtain ⟨⟨w, halt, r⟩, heq, _, hi⟩ := processBlock_eq H n s b fault hh
    rw [heq]
    cases r with
    | none => simpa [finishBlock] using hh
    | some e => simpa [finishBlock] using hi

end Aggkit.BridgeStore
