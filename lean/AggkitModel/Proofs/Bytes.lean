import AggkitModel.Model.Bytes
/-
`ofBE` as positional notation: the value of an append, of `fillBE` / `beBytes`, of a slice (its base-256 digits), and the
injectivity the codecs need.
-/
namespace Aggkit

theorem ofBE_foldl (bs : Bytes) (a : Nat) :
    bs.foldl (fun acc b => acc * 256 + b) a = a * 256 ^ bs.length + ofBE bs := by
  induction bs generalizing a with
  | nil => simp [ofBE]
  | cons b bs ih =>
    simp only [List.foldl_cons, ofBE, List.length_cons]
    rw [ih, ih (0 * 256 + b), Nat.pow_succ]
    simp [Nat.add_mul, Nat.mul_assoc, Nat.mul_comm 256, Nat.add_assoc]

@[simp] theorem ofBE_nil : ofBE [] = 0 := rfl

theorem ofBE_append (a b : Bytes) : ofBE (a ++ b) = ofBE a * 256 ^ b.length + ofBE b := by
  simp only [ofBE, List.foldl_append]
  exact ofBE_foldl b _

/-- the step `fillBE` and `beBytes` recurse by -/
@[simp] theorem ofBE_concat (a : Bytes) (x : Nat) : ofBE (a ++ [x]) = ofBE a * 256 + x := by
  simp [ofBE]

theorem ofBE_cons (b : Nat) (bs : Bytes) : ofBE (b :: bs) = b * 256 ^ bs.length + ofBE bs := by
  simpa [ofBE] using ofBE_append [b] bs

theorem IsBytes.append {a b : Bytes} (ha : IsBytes a) (hb : IsBytes b) : IsBytes (a ++ b) :=
  List.forall_mem_append.mpr ⟨ha, hb⟩

theorem IsBytes.take {a : Bytes} (ha : IsBytes a) (n : Nat) : IsBytes (a.take n) :=
  fun x hx => ha x (List.mem_of_mem_take hx)

theorem IsBytes.drop {a : Bytes} (ha : IsBytes a) (n : Nat) : IsBytes (a.drop n) :=
  fun x hx => ha x (List.mem_of_mem_drop hx)

theorem ofBE_lt {bs : Bytes} (h : IsBytes bs) : ofBE bs < 256 ^ bs.length := by
  induction bs with
  | nil => simp
  | cons b bs ih =>
    have := ih fun c hc => h c (List.mem_cons_of_mem _ hc)
    have := Nat.mul_le_mul_right (256 ^ bs.length) (Nat.le_of_lt_succ (h b (List.mem_cons_self ..)))
    rw [ofBE_cons, List.length_cons, Nat.pow_succ]
    omega

@[simp] theorem fillBE_length (k x : Nat) : (fillBE k x).length = k := by
  induction k generalizing x with
  | zero => rfl
  | succ k ih => simp [fillBE, ih]

theorem isBytes_fillBE (k x : Nat) : IsBytes (fillBE k x) := by
  induction k generalizing x with
  | zero => exact fun _ h => nomatch h
  | succ k ih => exact (ih _).append fun b hb => List.mem_singleton.mp hb ▸ Nat.mod_lt _ (by decide)

theorem ofBE_fillBE (k x : Nat) : ofBE (fillBE k x) = x % 256 ^ k := by
  induction k generalizing x with
  | zero => simp [fillBE, Nat.mod_one]
  | succ k ih =>
    rw [fillBE, ofBE_concat, ih, Nat.pow_succ, Nat.mul_comm (256 ^ k), Nat.mod_mul, Nat.add_comm, Nat.mul_comm]

/-- The bound reads `2 ^ (8 * k)` because the model states its ranges as powers of two (`2^32`, `2^64`, `2^256`): for a
    literal `k` such a hypothesis has this type by evaluation. -/
theorem ofBE_fillBE_of_lt {k x : Nat} (h : x < 2 ^ (8 * k)) : ofBE (fillBE k x) = x := by
  rw [ofBE_fillBE, Nat.mod_eq_of_lt (Nat.pow_mul 2 8 k ▸ h)]

/-- the equation comes first so that `k` is known when the bounds are elaborated -/
theorem fillBE_inj {k x y : Nat} (h : fillBE k x = fillBE k y) (hx : x < 2 ^ (8 * k)) (hy : y < 2 ^ (8 * k)) :
    x = y := by
  rw [← ofBE_fillBE_of_lt hx, h, ofBE_fillBE_of_lt hy]

@[simp] theorem fillLE_length (k x : Nat) : (fillLE k x).length = k := by
  simp [fillLE]

theorem fillLE_inj {k x y : Nat} (h : fillLE k x = fillLE k y) (hx : x < 2 ^ (8 * k)) (hy : y < 2 ^ (8 * k)) :
    x = y :=
  fillBE_inj (List.reverse_inj.mp h) hx hy

theorem beBytes_zero : beBytes 0 = [] := rfl

theorem beBytesAux_eq_fillBE (f x : Nat) : beBytesAux f x = fillBE (beBytesAux f x).length x := by
  fun_induction beBytesAux f x with
  | case1 | case2 => rfl
  | case3 f x _ ih => rw [List.length_append, List.length_singleton, fillBE, ← ih]

/-- with enough fuel the length is the least `k` with `x < 256^k` -/
theorem beBytesAux_length_le_iff {f x : Nat} (h : x ≤ f) (k : Nat) : (beBytesAux f x).length ≤ k ↔ x < 256 ^ k := by
  fun_induction beBytesAux f x generalizing k with
  | case1 => simp [Nat.le_zero.mp h, Nat.pow_pos]
  | case2 => simp [Nat.pow_pos]
  | case3 f x hx ih =>
    have hd := Nat.le_of_lt_succ (Nat.lt_of_lt_of_le (Nat.div_lt_self (Nat.pos_of_ne_zero hx) (by decide : 1 < 256)) h)
    rw [List.length_append, List.length_singleton]
    cases k with
    | zero => simpa using hx
    | succ k => rw [Nat.add_le_add_iff_right, ih hd, Nat.pow_succ, Nat.div_lt_iff_lt_mul (by decide)]

theorem beBytes_length_le_iff (x k : Nat) : (beBytes x).length ≤ k ↔ x < 256 ^ k :=
  beBytesAux_length_le_iff (Nat.le_refl x) k

theorem isBytes_beBytes (x : Nat) : IsBytes (beBytes x) := by
  rw [beBytes, beBytesAux_eq_fillBE]
  exact isBytes_fillBE _ x

theorem ofBE_beBytes (x : Nat) : ofBE (beBytes x) = x := by
  rw [beBytes, beBytesAux_eq_fillBE, ofBE_fillBE]
  exact Nat.mod_eq_of_lt ((beBytes_length_le_iff x _).mp (Nat.le_refl _))

theorem ofBE_take_drop {bs : Bytes} (h : IsBytes bs) (k : Nat) :
    ofBE (bs.take (bs.length - k)) = ofBE bs / 256 ^ k ∧
    ofBE (bs.drop (bs.length - k)) = ofBE bs % 256 ^ k := by
  have hs := ofBE_append (bs.take (bs.length - k)) (bs.drop (bs.length - k))
  have hlt := ofBE_lt (h.drop (bs.length - k))
  rw [List.take_append_drop] at hs
  rcases Nat.le_total k bs.length with hk | hk
  · rw [List.length_drop, Nat.sub_sub_self hk] at hs hlt
    rw [eq_comm, eq_comm (b := _ % _), Nat.div_mod_unique (Nat.pow_pos (by decide)), hs]
    exact ⟨by rw [Nat.add_comm, Nat.mul_comm], hlt⟩
  · -- fewer than `k` bytes: nothing is taken, and the whole value is below `256^k`
    have := Nat.lt_of_lt_of_le (ofBE_lt h) (Nat.pow_le_pow_right (by decide) hk)
    rw [Nat.sub_eq_zero_of_le hk, Nat.div_eq_of_lt this, Nat.mod_eq_of_lt this]
    exact ⟨rfl, rfl⟩

/-- the `k` bytes that end `a` bytes before the end are the base-256 digits `a .. a+k-1` -/
theorem ofBE_slice {bs : Bytes} (h : IsBytes bs) (a k : Nat) :
    ofBE ((bs.take (bs.length - a)).drop (bs.length - a - k)) = ofBE bs / 256 ^ a % 256 ^ k := by
  have := (ofBE_take_drop (h.take (bs.length - a)) k).2
  rwa [List.length_take_of_le (Nat.sub_le ..), (ofBE_take_drop h a).1] at this

theorem bytesToU32_of_le {b : Bytes} (h : b.length ≤ 4) : bytesToU32 b = some (ofBE b) :=
  if_neg (Nat.not_lt.mpr h)

theorem ofBE_replicate_zero_append (n : Nat) (bs : Bytes) : ofBE (List.replicate n 0 ++ bs) = ofBE bs := by
  induction n with
  | zero => rfl
  | succ n ih =>
    rw [List.replicate_succ, List.cons_append, ofBE_cons, ih]
    simp

@[simp] theorem bigToHash_length (x : Nat) : (bigToHash x).length = 32 := fillBE_length 32 x

theorem ofBE_bigToHash {x : Nat} (h : x < 2 ^ 256) : ofBE (bigToHash x) = x := ofBE_fillBE_of_lt (k := 32) h

@[simp] theorem bigToLE32_length (x : Nat) : (bigToLE32 x).length = 32 := by
  simp only [bigToLE32, List.length_append, List.length_replicate, List.length_take]
  exact Nat.add_sub_cancel' (Nat.min_le_left ..)

theorem ofLE_bigToLE32 {x : Nat} (h : x < 2 ^ 256) : ofLE (bigToLE32 x) = x := by
  have hl : (beBytes x).reverse.length ≤ 32 := by
    rw [List.length_reverse, beBytes_length_le_iff]
    exact h
  rw [ofLE, bigToLE32, List.take_of_length_le hl, List.reverse_append, List.reverse_replicate, List.reverse_reverse,
    ofBE_replicate_zero_append, ofBE_beBytes]

theorem bigToLE32_inj {x y : Nat} (h : bigToLE32 x = bigToLE32 y) (hx : x < 2 ^ 256) (hy : y < 2 ^ 256) : x = y := by
  rw [← ofLE_bigToLE32 hx, h, ofLE_bigToLE32 hy]

end Aggkit
