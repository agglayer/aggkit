import AggkitModel.Model.CertRange
/-
`Range` and `limitCertSize` (Model/CertRange.lean) on well-formed build parameters: every candidate they produce is a prefix
cut `cutTo p t` of the parameters they start from.
-/
namespace Aggkit.C17
open Aggkit.CertRange

/-- well-formed build parameters: what `GetBridgesAndClaims(from, to)` returns -/
def WFp (p : Params) : Prop :=
  p.from_ ≤ p.to_ ∧ (∀ e ∈ p.bridges, inRange p.from_ p.to_ e = true) ∧ (∀ e ∈ p.claims, inRange p.from_ p.to_ e = true)

/-- the result of a prefix cut `[from, t]` of `p` as one filter of the original events -/
def cutTo (p : Params) (t : Nat) : Params :=
  { p with to_ := t, bridges := p.bridges.filter (inRange p.from_ t), claims := p.claims.filter (inRange p.from_ t) }

theorem cutTo_self {p : Params} (hp : WFp p) : cutTo p p.to_ = p := by
  rw [cutTo, List.filter_eq_self.mpr hp.2.1, List.filter_eq_self.mpr hp.2.2]

theorem filter_inRange_narrow (l : List Ev) (f : Nat) {t t' : Nat} (h : t' ≤ t) :
    (l.filter (inRange f t)).filter (inRange f t') = l.filter (inRange f t') := by
  rw [List.filter_filter]
  refine List.filter_congr fun e _ => ?_
  simp only [inRange, Bool.and_eq_left_iff_imp, Bool.and_eq_true, decide_eq_true_eq]
  omega

theorem cutTo_cutTo (p : Params) {t t' : Nat} (h : t' ≤ t) : cutTo (cutTo p t) t' = cutTo p t' := by
  simp only [cutTo, filter_inRange_narrow _ _ h]

theorem WFp_cutTo {p : Params} {t : Nat} (h : p.from_ ≤ t) : WFp (cutTo p t) :=
  ⟨h, fun _ he => (List.mem_filter.mp he).2, fun _ he => (List.mem_filter.mp he).2⟩

theorem range_eq {p : Params} (hp : WFp p) (f t : Nat) :
    range p f t =
      if p.from_ ≤ f ∧ t ≤ p.to_ ∧ f ≤ t then
        some { p with from_ := f, to_ := t, bridges := p.bridges.filter (inRange f t),
                      claims := p.claims.filter (inRange f t) }
      else none := by
  fun_cases range p f t
  case case1 c =>
    obtain ⟨rfl, rfl⟩ := c
    rw [if_pos ⟨Nat.le_refl _, Nat.le_refl _, hp.1⟩]
    exact congrArg some (cutTo_self hp).symm
  case case4 => rw [if_pos (by omega)]
  all_goals rw [if_neg (by omega)]

theorem range_from_eq_cutTo {p : Params} {t : Nat} (hp : WFp p) (h1 : p.from_ ≤ t) (h2 : t ≤ p.to_) :
    range p p.from_ t = some (cutTo p t) := by
  rw [range_eq hp, if_pos ⟨Nat.le_refl _, h2, h1⟩]
  rfl

/-- the loop of `limitCertSize`, started at the prefix cut of `p` at `t`: it ends at the longest prefix up to `t` that
    fits, or at the first block alone. `fuel` outlasts the blocks that can still go. -/
theorem limitAux_cutTo (size : Params → Nat) (maxSize : Nat) (p : Params) (fuel t : Nat)
    (h1 : p.from_ ≤ t) (hf : t < p.from_ + fuel) :
    ∃ t', limitAux size maxSize fuel (cutTo p t) = some (cutTo p t') ∧ p.from_ ≤ t' ∧ t' ≤ t ∧
      (maxSize = 0 ∨ size (cutTo p t') ≤ maxSize ∨ t' = p.from_) ∧
      (∀ t'', t' < t'' → t'' ≤ t → ¬ (maxSize = 0 ∨ size (cutTo p t'') ≤ maxSize)) := by
  induction fuel generalizing t with
  | zero => exact absurd hf (Nat.not_lt.2 h1)
  | succ fuel ih =>
    rw [limitAux, show (cutTo p t).to_ = t from rfl, show (cutTo p t).from_ = p.from_ from rfl]
    have hnone (t'' : Nat) (a : t < t'') (b : t'' ≤ t) : ¬ (maxSize = 0 ∨ size (cutTo p t'') ≤ maxSize) :=
      absurd a (Nat.not_lt.2 b)
    by_cases hfit : maxSize = 0 ∨ size (cutTo p t) ≤ maxSize
    · rw [if_pos hfit]
      exact ⟨t, rfl, h1, Nat.le_refl t, hfit.imp_right .inl, hnone⟩
    rw [if_neg hfit]
    by_cases hone : t - p.from_ + 1 ≤ 1
    · rw [if_pos hone]
      exact ⟨t, rfl, h1, Nat.le_refl t, .inr (.inr (by omega)), hnone⟩
    obtain ⟨s, rfl⟩ : ∃ s, t = s + 1 := ⟨t - 1, by omega⟩
    have hs : p.from_ ≤ s := by omega
    have hr : range (cutTo p (s + 1)) p.from_ s = some (cutTo p s) := by
      rw [← cutTo_cutTo p (Nat.le_succ s)]
      exact range_from_eq_cutTo (WFp_cutTo h1) hs (Nat.le_succ s)
    rw [if_neg hone, Nat.add_sub_cancel, hr]
    obtain ⟨t', e1, e2, e3, e4, e5⟩ := ih s hs (by omega)
    refine ⟨t', e1, e2, Nat.le_succ_of_le e3, e4, fun t'' a b => ?_⟩
    by_cases e : t'' = s + 1
    · exact e ▸ hfit
    · exact e5 t'' a (Nat.le_of_lt_succ (Nat.lt_of_le_of_ne b e))

theorem limitCertSize_spec (size : Params → Nat) (maxSize : Nat) {p : Params} (hp : WFp p) :
    ∃ t, limitCertSize size maxSize p = some (cutTo p t) ∧ p.from_ ≤ t ∧ t ≤ p.to_ ∧
      (maxSize = 0 ∨ size (cutTo p t) ≤ maxSize ∨ t = p.from_) ∧
      (∀ t', t < t' → t' ≤ p.to_ → ¬ (maxSize = 0 ∨ size (cutTo p t') ≤ maxSize)) := by
  have := limitAux_cutTo size maxSize p (p.to_ - p.from_ + 2) p.to_ hp.1 (by omega)
  rwa [cutTo_self hp] at this

end Aggkit.C17
