import AggkitModel.Proofs.Merkle
import AggkitModel.Model.Contract
set_option linter.unusedSectionVars false
/-
The contract's incremental tree computes the spec root (any height, any hash algebra). Its `_branch` array is a
frontier in the sense of `FrontierOK`: `getRoot` reads it the way `AddLeaf` reads its cache; `_addLeaf` writes one level
only, the one where the carry of the new count stops (`AddLeaf` overwrites every level whose bit is clear, so the two
states differ on don't-care levels and agree only through the invariant).
-/
namespace Aggkit
-- Nothing here compares elements of `α`. `[DecidableEq α]` is an argument of `contract_root`, stated over the same `α` as the
-- tree theorems it is used with (C01); the linter option above is for that unused instance.
variable {α : Type} [DecidableEq α]

section
variable {H : HashAlg α} {n : Nat} {f : Nat → α}

/-- `getRoot` loop: with a valid frontier for `cnt` leaves it climbs the path of the first empty position -/
theorem rootAux_spec {br : List α} {cnt : Nat} (hz : ∀ j, cnt ≤ j → f j = H.zero) (hfr : FrontierOK H n f br cnt) :
    ∀ (k h : Nat), h + k ≤ n →
      DC.rootAux H br k h (cnt / 2^h) (tn H f h (cnt / 2^h)) = tn H f (h+k) (cnt / 2^(h+k)) := by
  intro k
  induction k with
  | zero =>
    intro h _
    rfl
  | succ k ih =>
    intro h hle
    have hp := tn_path H f cnt h
    rw [DC.rootAux, ← div_pow_succ]
    simp only [← testBit_iff]
    cases hb : cnt.testBit h
    · rw [hb, if_neg Bool.false_ne_true, sibT_zero_right H f cnt h (fun j hj => hz j (by omega)) hb] at hp
      rw [if_neg Bool.false_ne_true, ← hp, ih (h+1) (by omega), Nat.add_assoc, Nat.add_comm 1 k]
    · rw [hb, if_pos rfl, ← hfr.sib (by omega) hb] at hp
      rw [if_pos rfl, ← hp, ih (h+1) (by omega), Nat.add_assoc, Nat.add_comm 1 k]

theorem getRoot_spec {d : DC α}
    (hz : ∀ j, d.count ≤ j → f j = H.zero) (hfr : FrontierOK H n f d.branch d.count) (hb : d.count < 2^n) :
    DC.getRoot H n d = tn H f n 0 := by
  have := rootAux_spec hz hfr n 0 (by omega)
  rwa [Nat.pow_zero, Nat.div_one, Nat.zero_add, tn_zero, hz d.count (Nat.le_refl _), Nat.div_eq_of_lt hb] at this


/-- a carry stops at the first clear bit: above it `i` and `i+1` have the same quotients -/
theorem succ_div_above_clear_bit (i h0 h : Nat) (hb : i.testBit h0 = false) (hlt : h0 < h) :
    (i + 1) / 2^h = i / 2^h := by
  obtain ⟨d, rfl⟩ : ∃ d, h = h0 + 1 + d := ⟨h - h0 - 1, by omega⟩
  have hb' := (testBit_false_iff i h0).mp hb
  rw [div_pow_add, div_pow_add i, div_pow_succ, div_pow_succ i]
  congr 1
  rcases succ_div_cases i h0 with e | e
  · rw [e]
  · rw [e]
    omega

/-- `_addLeaf` loop for the leaf at position `i`, at a level `h` that the carry of `i + 1` reaches; the node carried is the
    ancestor of `i`. If bit `h` of `i` is set the carry goes on, and the branch holds the left sibling to hash with. If it is
    clear the ancestor is stored: it is the completed left sibling of position `i + 1` at that level, and above it `i` and
    `i + 1` have the same quotients, so the entries of the old frontier stay right. -/
theorem addAux_frontier {i : Nat} {br : List α} (v : α)
    (hfr : FrontierOK H n f br i) (hlt : i + 1 < 2^n) :
    ∀ (k h : Nat), h + k = n → (i + 1) / 2^h = i / 2^h + 1 →
      (DC.addAux H k h ((i + 1) / 2^h) (tn H (updateFn f i v) h (i / 2^h)) br).length = n ∧
      ∀ h', h ≤ h' → h' < n → ((i + 1) / 2^h') % 2 = 1 →
        (DC.addAux H k h ((i + 1) / 2^h) (tn H (updateFn f i v) h (i / 2^h)) br).getD h' H.zero =
          tn H (updateFn f i v) h' ((i + 1) / 2^h' - 1) := by
  intro k
  induction k with
  | zero =>
    intro h hk hq
    rw [Nat.add_zero] at hk
    rw [hk, Nat.div_eq_of_lt hlt] at hq
    exact absurd hq.symm (Nat.succ_ne_zero _)
  | succ k ih =>
    intro h hk hq
    have hh : h < n := hk ▸ Nat.lt_add_of_pos_right (Nat.succ_pos k)
    rw [DC.addAux]
    cases hb : i.testBit h
    · have hb' := (testBit_false_iff i h).mp hb
      rw [if_pos (by rw [hq]; exact Nat.succ_mod_two_eq_one_iff.mpr hb')]
      refine ⟨List.length_set.trans hfr.1, fun h' h1 h2 hbit => ?_⟩
      rw [getD_set]
      rcases Nat.eq_or_lt_of_le h1 with rfl | h1
      · rw [if_pos ⟨rfl, hfr.1 ▸ h2⟩, hq, Nat.add_sub_cancel]
      · rw [succ_div_above_clear_bit i h h' hb h1] at hbit ⊢
        rw [if_neg (fun a => Nat.ne_of_lt h1 a.1), hfr.2 h' h2 hbit, tn_updateFn]
        omega
    · have hb' := (testBit_iff i h).mp hb
      have hs : ¬ ((i + 1) / 2^h) % 2 = 1 := by
        rw [hq, Nat.succ_mod_two_eq_one_iff, hb']
        exact Nat.one_ne_zero
      have hp := tn_path H (updateFn f i v) i h
      rw [hb, if_pos rfl, sibT_update, ← hfr.sib hh hb] at hp
      rw [if_neg hs, ← div_pow_succ, ← hp]
      obtain ⟨l, g⟩ := ih (h+1) (by omega) (by
        rw [div_pow_succ, div_pow_succ i, hq]
        exact Nat.succ_div_of_dvd (Nat.dvd_of_mod_eq_zero (Nat.succ_mod_two_eq_zero_iff.mpr hb')))
      refine ⟨l, fun h' h1 h2 hbit => g h' ?_ h2 hbit⟩
      rcases Nat.eq_or_lt_of_le h1 with rfl | h1
      · exact absurd hbit hs
      · exact h1

theorem deposit_frontier {d : DC α} (v : α)
    (hfr : FrontierOK H n f d.branch d.count) (hb : d.count + 1 < 2^n) :
    FrontierOK H n (updateFn f d.count v) (DC.deposit H n d v).branch (d.count + 1) := by
  have := addAux_frontier v hfr hb n 0 (Nat.zero_add n) (by simp)
  rw [Nat.pow_zero, Nat.div_one, Nat.div_one, tn_zero, show updateFn f d.count v d.count = v from if_pos rfl] at this
  exact ⟨this.1, fun h hh hbit => this.2 h (Nat.zero_le _) hh hbit⟩

end

/-- `ls0` holds the leaves deposited so far; `contract_root` is the case `ls0 = []` -/
theorem depositAll_frontier (H : HashAlg α) (n : Nat) :
    ∀ (ls ls0 : List α) (d : DC α), d.count = ls0.length → FrontierOK H n (leafFn H ls0) d.branch ls0.length →
      ls0.length + ls.length < 2^n →
      (DC.depositAll H n d ls).count = ls0.length + ls.length ∧
      FrontierOK H n (leafFn H (ls0 ++ ls)) (DC.depositAll H n d ls).branch (ls0.length + ls.length) := by
  intro ls
  induction ls with
  | nil =>
    intro ls0 d hc hfr _
    simpa [DC.depositAll] using ⟨hc, hfr⟩
  | cons v ls ih =>
    intro ls0 d hc hfr hb
    simp only [List.length_cons] at hb
    have hd := deposit_frontier v (hc ▸ hfr) (show d.count + 1 < 2^n by omega)
    rw [hc, leafFn_append] at hd
    have := ih (ls0 ++ [v]) (DC.deposit H n d v) (by simp [DC.deposit, hc]) (by simpa using hd) (by simp; omega)
    simpa [DC.depositAll, Nat.add_assoc, Nat.add_comm 1] using this

/-- **the contract's root after depositing `ls` is the spec root** -/
theorem contract_root (H : HashAlg α) (n : Nat) (ls : List α) (hb : ls.length < 2^n) :
    DC.getRoot H n (DC.depositAll H n (DC.empty H n) ls) = specRoot H n ls := by
  obtain ⟨c1, c2⟩ := depositAll_frontier H n ls [] (DC.empty H n) rfl
    ⟨by simp [DC.empty], fun h _ hbit => by simp at hbit⟩ (by simpa using hb)
  simp only [List.nil_append, List.length_nil, Nat.zero_add] at c1 c2
  rw [getRoot_spec (f := leafFn H ls) (c1 ▸ leafFn_ge H ls) (c1 ▸ c2) (c1 ▸ hb)]
  simp [specRoot, tn]

end Aggkit
