import AggkitModel.Model.GenPrelude
namespace Aggkit.GenPrelude

/-! Go's `uint64` operators where they do not wrap -/

theorem add64_of_lt {a b : Nat} (h : a + b < 2^64) : add64 a b = a + b :=
  Nat.mod_eq_of_lt h

theorem sub64_of_le {a b : Nat} (hb : b ≤ a) (ha : a < 2^64) : sub64 a b = a - b := by
  unfold sub64
  rw [Nat.mod_eq_of_lt (Nat.lt_of_le_of_lt hb ha), Nat.sub_add_comm hb, Nat.add_mod_right]
  exact Nat.mod_eq_of_lt (Nat.lt_of_le_of_lt (Nat.sub_le a b) ha)

end Aggkit.GenPrelude
