/-
Facts about lists that several lemma layers need: a list that grows by one element at its end (every table of the model
grows that way), a list read after `set` (the tree's cache and the contract's branch array are written that way), lists
strictly ascending by a `Nat` key (the stores' tables, the tracked lists and the L2 block list are all kept that way),
induction over the prefixes of a list, and what is left of an append after dropping past its first part (the byte slices of
C03).
-/
namespace Aggkit
variable {α : Type} {key : α → Nat} {l : List α}

theorem forall_mem_concat {P : α → Prop} {b : α} : (∀ x ∈ l ++ [b], P x) ↔ (∀ x ∈ l, P x) ∧ P b := by
  rw [List.forall_mem_append, List.forall_mem_singleton]

theorem pairwise_concat {R : α → α → Prop} (h : l.Pairwise R) {b : α} (hb : ∀ x ∈ l, R x b) : (l ++ [b]).Pairwise R :=
  List.pairwise_append.mpr ⟨h, List.pairwise_singleton .., fun x hx _ hy => List.mem_singleton.mp hy ▸ hb x hx⟩

theorem getD_set (c : List α) (h j : Nat) (v d : α) :
    (c.set h v).getD j d = if h = j ∧ h < c.length then v else c.getD j d := by
  simp only [List.getD_eq_getElem?_getD, List.getElem?_set]
  by_cases e : h = j
  · subst e
    by_cases hlt : h < c.length
    · simp [hlt]
    · simp [hlt]
  · simp [e]

theorem drop_append_of_length_le {a b : List α} {i : Nat} (h : a.length ≤ i) :
    (a ++ b).drop i = b.drop (i - a.length) := by
  rw [List.drop_append, List.drop_eq_nil_of_le h, List.nil_append]

theorem pairwise_lt_inj (h : l.Pairwise (fun a b => key a < key b)) {a b : α} (ha : a ∈ l) (hb : b ∈ l)
    (hab : key a = key b) : a = b :=
  List.Pairwise.forall_of_forall_of_flip (R := fun a b => key a = key b → a = b) (fun _ _ _ => rfl)
    (h.imp fun hlt e => absurd e (Nat.ne_of_lt hlt)) (h.imp fun hlt e => absurd e.symm (Nat.ne_of_lt hlt)) ha hb hab

theorem pairwise_le_of_getLast (hs : l.Pairwise (fun a b => key a < key b)) {n : Nat}
    (hz : ∀ z, l.getLast? = some z → key z ≤ n) : ∀ x ∈ l, key x ≤ n := by
  cases hg : l.getLast? with
  | none =>
    rw [List.getLast?_eq_none_iff.mp hg]
    exact nofun
  | some z =>
    obtain ⟨ys, rfl⟩ := List.getLast?_eq_some_iff.mp hg
    exact forall_mem_concat.mpr ⟨fun y hy => Nat.le_trans
      (Nat.le_of_lt ((List.pairwise_append.mp hs).2.2 y hy z (List.mem_singleton_self z))) (hz z hg), hz z hg⟩

theorem filter_le_append_filter_gt (hs : l.Pairwise (fun a b => key a < key b)) (m : Nat) :
    l.filter (fun a => decide (key a ≤ m)) ++ l.filter (fun a => decide (m < key a)) = l := by
  induction l with
  | nil => rfl
  | cons x rest ih =>
    rw [List.pairwise_cons] at hs
    by_cases h : key x ≤ m
    · rw [List.filter_cons_of_pos (by simpa using h), List.filter_cons_of_neg (by simpa using h), List.cons_append, ih hs.2]
    · -- `x` is above the bound, and so is everything after it
      have hgt : ∀ a ∈ x :: rest, m < key a := fun a ha => by
        rcases List.mem_cons.mp ha with rfl | ha
        · omega
        · have := hs.1 a ha
          omega
      rw [List.filter_eq_nil_iff.mpr fun a ha => by have := hgt a ha; simp; omega,
        List.filter_eq_self.mpr fun a ha => by simpa using hgt a ha, List.nil_append]

/-- putting `b` in its place, instead of whatever had its key, keeps the list ascending -/
theorem pairwise_lt_insert (h : l.Pairwise (fun a b => key a < key b)) (b : α) :
    (l.filter (fun x => decide (key x < key b)) ++ [b] ++ l.filter (fun x => decide (key b < key x))).Pairwise
      (fun a b => key a < key b) := by
  have lo : ∀ x ∈ l.filter (fun x => decide (key x < key b)), key x < key b := fun x hx =>
    of_decide_eq_true (List.mem_filter.mp hx).2
  have hi : ∀ x ∈ l.filter (fun x => decide (key b < key x)), key b < key x := fun x hx =>
    of_decide_eq_true (List.mem_filter.mp hx).2
  exact List.pairwise_append.mpr ⟨pairwise_concat (h.sublist List.filter_sublist) lo, h.sublist List.filter_sublist,
    forall_mem_concat.mpr ⟨fun a ha c hc => Nat.lt_trans (lo a ha) (hi c hc), hi⟩⟩

/-- induction over the prefixes of a list, for a fact `P` that relates each element to the elements before it -/
@[elab_as_elim]
theorem prefix_induction {P : List α → α → Prop} {Q : List α → Prop} (l : List α)
    (h : ∀ i (hi : i < l.length), P (l.take i) l[i]) (nil : Q [])
    (snoc : ∀ pre c, Q pre → P pre c → c ∈ l → Q (pre ++ [c])) : Q l := by
  suffices ∀ n, n ≤ l.length → Q (l.take n) by simpa using this l.length (Nat.le_refl _)
  intro n
  induction n with
  | zero =>
    intro _
    exact nil
  | succ n ih =>
    intro hn
    rw [List.take_succ_eq_append_getElem hn]
    exact snoc _ _ (ih (Nat.le_of_lt hn)) (h n hn) (List.getElem_mem hn)

end Aggkit
