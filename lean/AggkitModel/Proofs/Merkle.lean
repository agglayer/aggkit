import Mathlib.Tactic.Ring
import AggkitModel.Model.Tree
import AggkitModel.Proofs.Lists
/-
The Merkle core, for any height and any hash algebra.
`tn H f h q` is the spec node at level `h`, horizontal position `q` (it covers the leaves `j` with `j / 2^h = q`).
The path of a position `i`: its ancestor `tn H f h (i / 2^h)`, the sibling `sibT H f i h` and the node
`pathNode H f i h` above both. `pathNode_eq` is the one step all loops of package `tree` take along that path
(`calcRoot`, `UpsertLeaf`, `AddLeaf` upwards; `getSiblings`, `GetLeaf`, `initCache` downwards through the node store).
`FrontierOK` is the invariant of the append-only tree's cache, read through `FrontierOK.sib`, written through
`FrontierOK.of_left`; the deposit contract's branch array obeys the same invariant (Proofs/Contract).
The node table is read under `Consistent` and `Closed` (every subtree over a written position is stored); `lookup_path` is
content addressing; `served_spec` is what the property files use.
-/
namespace Aggkit
variable {α : Type}

theorem sub_zero_region (H : HashAlg α) (f : Nat → α) (h b : Nat)
    (hz : ∀ j, b ≤ j → f j = H.zero) : sub H f h b = zeroH H h := by
  induction h generalizing b with
  | zero => exact hz b (Nat.le_refl _)
  | succ h ih => rw [sub, zeroH, ih b hz, ih (b + 2^h) (fun j hj => hz j (Nat.le_of_add_right_le hj))]

theorem sub_congr (H : HashAlg α) (f g : Nat → α) (h b : Nat)
    (hfg : ∀ j, b ≤ j → j < b + 2^h → f j = g j) : sub H f h b = sub H g h b := by
  induction h generalizing b with
  | zero => exact hfg b (Nat.le_refl _) (by simp)
  | succ h ih =>
    have hp : 0 < 2^h := Nat.two_pow_pos h
    rw [Nat.pow_succ] at hfg
    rw [sub, sub, ih b (fun j h1 h2 => hfg j h1 (by omega)), ih (b + 2^h) (fun j h1 h2 => hfg j (by omega) (by omega))]

def tn (H : HashAlg α) (f : Nat → α) (h q : Nat) : α := sub H f h (q * 2^h)

section
variable (H : HashAlg α) (f : Nat → α)

theorem tn_zero (q : Nat) : tn H f 0 q = f q := by simp [tn, sub]

theorem tn_succ (h q : Nat) :
    tn H f (h+1) q = H.node (tn H f h (2*q)) (tn H f h (2*q+1)) := by
  unfold tn
  rw [sub, show 2 * q * 2^h = q * 2^(h+1) by ring, show (2 * q + 1) * 2^h = q * 2^(h+1) + 2^h by ring]

theorem tn_congr (g : Nat → α) (h q : Nat)
    (hfg : ∀ j, j / 2^h = q → f j = g j) : tn H f h q = tn H g h q :=
  sub_congr H f g h _ (fun j h1 h2 => hfg j (by
    have hp := Nat.two_pow_pos h
    rw [Nat.div_eq_iff hp]
    omega))

theorem tn_zero_of (h q : Nat)
    (hz : ∀ j, j / 2^h = q → f j = H.zero) : tn H f h q = zeroH H h := by
  rw [tn_congr H f (fun _ => H.zero) h q hz]
  exact sub_zero_region H _ h _ (fun _ _ => rfl)

theorem tn_updateFn (i : Nat) (v : α) (h q : Nat) (hq : i / 2^h ≠ q) :
    tn H (updateFn f i v) h q = tn H f h q :=
  tn_congr H _ f h q (fun j hj => if_neg (fun e : j = i => hq (e ▸ hj)))

end

theorem div_pow_succ (i h : Nat) : i / 2^(h+1) = (i / 2^h) / 2 := by
  rw [Nat.pow_succ, Nat.div_div_eq_div_mul]

theorem div_pow_add (j a b : Nat) : j / 2^(a+b) = (j / 2^a) / 2^b := by
  rw [Nat.pow_add, Nat.div_div_eq_div_mul]

theorem succ_div_cases (i h : Nat) : (i+1) / 2^h = i / 2^h ∨ (i+1) / 2^h = i / 2^h + 1 := by
  rw [Nat.succ_div]
  split <;> simp

theorem testBit_iff (i h : Nat) : i.testBit h = true ↔ (i / 2^h) % 2 = 1 := by
  rw [Nat.testBit_eq_decide_div_mod_eq]
  simp

theorem testBit_false_iff (i h : Nat) : i.testBit h = false ↔ (i / 2^h) % 2 = 0 := by
  rw [← Bool.not_eq_true, testBit_iff]
  exact Nat.mod_two_ne_one

theorem shiftAnd_iff (i h : Nat) : ((i >>> h) &&& 1 = 1) ↔ i.testBit h = true := by
  rw [testBit_iff, Nat.shiftRight_eq_div_pow, Nat.and_one_is_mod]

section
variable (H : HashAlg α) (ls : List α)

theorem leafFn_ge (j : Nat) (h : ls.length ≤ j) : leafFn H ls j = H.zero := by
  simp [leafFn, List.getD_eq_getElem?_getD, List.getElem?_eq_none h]

theorem leafFn_append (v : α) :
    updateFn (leafFn H ls) ls.length v = leafFn H (ls ++ [v]) := by
  funext j
  simp only [updateFn, leafFn, List.getD_eq_getElem?_getD]
  by_cases e : j = ls.length
  · subst e
    simp
  · simp only [e, if_false]
    by_cases l : j < ls.length
    · rw [List.getElem?_append_left l]
    · rw [List.getElem?_eq_none (by omega), List.getElem?_eq_none (by simp; omega)]

theorem leafFn_take_lt (m j : Nat) (h : j < m) :
    leafFn H (ls.take m) j = leafFn H ls j := by
  simp [leafFn, List.getD_eq_getElem?_getD, h]

theorem leafFn_length (v : α) : leafFn H (ls ++ [v]) ls.length = v := by
  simp [leafFn, List.getD_eq_getElem?_getD]

end

def sibIdx (q : Nat) : Nat := if q % 2 = 1 then q - 1 else q + 1

def sibT (H : HashAlg α) (f : Nat → α) (i h : Nat) : α := tn H f h (sibIdx (i / 2^h))

/-- the spec node created at level `h` (its hash is the level `h+1` ancestor of leaf `i`) -/
def pathNode (H : HashAlg α) (f : Nat → α) (i h : Nat) : Node α :=
  mkNode H (tn H f h (2 * (i / 2^(h+1)))) (tn H f h (2 * (i / 2^(h+1)) + 1))

theorem sibIdx_ne (q : Nat) : sibIdx q ≠ q := by
  unfold sibIdx
  split <;> omega

theorem sibIdx_parent (q : Nat) : sibIdx q / 2 = q / 2 := by
  unfold sibIdx
  split <;> omega

section
variable (H : HashAlg α) (f : Nat → α) (i h : Nat)

theorem specSibling_eq_sibT : specSibling H f i h = sibT H f i h := by
  unfold specSibling sibT sibIdx tn
  split <;> rfl

theorem sibT_update (v : α) :
    sibT H (updateFn f i v) i h = sibT H f i h := tn_updateFn H f i v h _ (sibIdx_ne _).symm

theorem sibT_zero_right (hz : ∀ j, i < j → f j = H.zero)
    (hb : i.testBit h = false) : sibT H f i h = zeroH H h := by
  have hb' := (testBit_false_iff i h).mp hb
  unfold sibT sibIdx
  rw [if_neg (by omega)]
  exact tn_zero_of H f h _ (fun j hj => hz j (Nat.lt_of_div_lt_div (c := 2^h) (by omega)))

theorem pathNode_hash :
    (pathNode H f i h).hash = tn H f (h+1) (i / 2^(h+1)) := (tn_succ ..).symm

/-- The children of `i`'s ancestor at level `h+1` are its ancestor at level `h` and the sibling, ordered by bit `h`
    of `i`: with `q = i / 2^h`, the children sit at `2 * (q / 2)` and `2 * (q / 2) + 1`, and `q = 2 * (q / 2) + q % 2`. -/
theorem pathNode_eq :
    pathNode H f i h = if i.testBit h then mkNode H (sibT H f i h) (tn H f h (i / 2^h))
      else mkNode H (tn H f h (i / 2^h)) (sibT H f i h) := by
  have e := Nat.div_add_mod (i / 2^h) 2
  unfold pathNode sibT sibIdx
  rw [div_pow_succ]
  by_cases hb : (i / 2^h) % 2 = 1
  · rw [hb] at e
    rw [if_pos ((testBit_iff i h).mpr hb), if_pos hb, Nat.sub_eq_of_eq_add e.symm, e]
  · rw [Nat.mod_two_ne_one.mp hb, Nat.add_zero] at e
    rw [if_neg (fun t => hb ((testBit_iff i h).mp t)), if_neg hb, e]

theorem tn_path :
    tn H f (h+1) (i / 2^(h+1)) = if i.testBit h then H.node (sibT H f i h) (tn H f h (i / 2^h))
      else H.node (tn H f h (i / 2^h)) (sibT H f i h) := by
  rw [← pathNode_hash, pathNode_eq]
  split <;> rfl

theorem pathNode_child :
    (if i.testBit h then (pathNode H f i h).right else (pathNode H f i h).left) = tn H f h (i / 2^h) := by
  rw [pathNode_eq]
  cases i.testBit h <;> rfl

theorem pathNode_sib :
    (if i.testBit h then (pathNode H f i h).left else (pathNode H f i h).right) = sibT H f i h := by
  rw [pathNode_eq]
  cases i.testBit h <;> rfl

end

theorem tn_inj (H : HashAlg α) (f : Nat → α) (hinj : H.Inj) (g : Nat → α) :
    ∀ (h q : Nat), tn H f h q = tn H g h q → ∀ j, j / 2^h = q → f j = g j := by
  intro h
  induction h with
  | zero =>
    intro q he j hj
    rw [Nat.pow_zero, Nat.div_one] at hj
    rwa [tn_zero, tn_zero, ← hj] at he
  | succ h ih =>
    rintro _ he j rfl
    rw [tn_path, tn_path] at he
    cases hb : j.testBit h <;> rw [hb] at he
    · exact ih _ (hinj _ _ _ _ he).1 j rfl
    · exact ih _ (hinj _ _ _ _ he).2 j rfl

/-- a sibling below an all-zero ancestor is a zero hash -/
theorem sibT_zero_of (H : HashAlg α) (f : Nat → α) (i h' h : Nat) (hlt : h' < h)
    (hz : ∀ j, j / 2^h = i / 2^h → f j = H.zero) : sibT H f i h' = zeroH H h' := by
  refine tn_zero_of H f h' _ (fun j hj => hz j ?_)
  obtain ⟨d, rfl⟩ : ∃ d, h = h' + (1 + d) := ⟨h - h' - 1, by omega⟩
  rw [div_pow_add j, div_pow_add i, hj, div_pow_add, div_pow_add (i / 2^h'), Nat.pow_one, sibIdx_parent]

section
variable (H : HashAlg α) (f : Nat → α) (i : Nat)

theorem calcRootAux_spec :
    ∀ (k h : Nat), calcRootAux H i ((List.range' h k).map (sibT H f i)) h (tn H f h (i / 2^h))
      = tn H f (h+k) (i / 2^(h+k)) := by
  intro k
  induction k with
  | zero =>
    intro h
    rfl
  | succ k ih =>
    intro h
    rw [List.range'_succ, List.map_cons, calcRootAux]
    simp only [shiftAnd_iff]
    rw [← apply_ite (calcRootAux H i _ (h+1)), ← tn_path, ih, Nat.add_assoc, Nat.add_comm 1 k]

theorem upsertLoop_spec :
    ∀ (k h : Nat) (ns : List (Node α)),
      upsertLoop H i ((List.range' h k).map (sibT H f i)) h (tn H f h (i / 2^h)) ns =
        (tn H f (h+k) (i / 2^(h+k)), ns ++ (List.range' h k).map (pathNode H f i)) := by
  intro k
  induction k with
  | zero =>
    intro h ns
    simp [upsertLoop]
  | succ k ih =>
    intro h ns
    rw [List.range'_succ, List.map_cons, upsertLoop]
    simp only [← pathNode_eq, pathNode_hash, ih, List.map_cons, List.append_assoc,
      List.singleton_append, Nat.add_assoc, Nat.add_comm 1 k]

/-- `AddLeaf` climbs the path of `i`: if the cache holds the left sibling wherever bit `h` of `i` is set (elsewhere the
    right sibling is a zero subtree), the loop returns the root and the path nodes, and the cache it leaves holds, at
    every level visited, the left child of the node on the path (kept where the bit is set, written where it is clear) -/
theorem addLoop_spec (hz : ∀ j, i < j → f j = H.zero) :
    ∀ (k h : Nat) (c : List α) (ns : List (Node α)), h + k ≤ c.length →
      (∀ h', h ≤ h' → h' < h + k → i.testBit h' = true → c.getD h' H.zero = sibT H f i h') →
      ∃ c', addLoop H i k h c (tn H f h (i / 2^h)) ns =
          (c', tn H f (h+k) (i / 2^(h+k)), ns ++ (List.range' h k).map (pathNode H f i)) ∧
        c'.length = c.length ∧
        ∀ h', c'.getD h' H.zero = if h ≤ h' ∧ h' < h + k then (pathNode H f i h').left else c.getD h' H.zero := by
  intro k
  induction k with
  | zero =>
    intro h c ns _ _
    exact ⟨c, by simp [addLoop], rfl, fun h' => (if_neg (by omega)).symm⟩
  | succ k ih =>
    intro h c ns hlen hc
    obtain ⟨c1, hstep, hl1, hget⟩ : ∃ c1,
        addLoop H i (k+1) h c (tn H f h (i / 2^h)) ns =
          addLoop H i k (h+1) c1 (tn H f (h+1) (i / 2^(h+1))) (ns ++ [pathNode H f i h]) ∧
        c1.length = c.length ∧
        ∀ h', c1.getD h' H.zero = if h = h' ∧ h < c.length then (pathNode H f i h).left else c.getD h' H.zero := by
      have hp := pathNode_eq H f i h
      rw [addLoop, ← pathNode_hash]
      cases hb : i.testBit h
      · rw [hb, if_neg Bool.false_ne_true, sibT_zero_right H f i h hz hb] at hp
        rw [if_neg Bool.false_ne_true, hp]
        exact ⟨_, rfl, List.length_set, fun h' => getD_set c h h' _ _⟩
      · rw [hb, if_pos rfl, ← hc h (Nat.le_refl _) (by omega) hb] at hp
        rw [if_pos rfl, hp]
        exact ⟨c, rfl, rfl, fun h' => (ite_eq_right_iff.mpr fun e => e.1 ▸ rfl).symm⟩
    obtain ⟨c', r, l, g⟩ := ih (h+1) c1 (ns ++ [pathNode H f i h]) (by omega) (fun h' h1 h2 h3 => by
      rw [hget, if_neg (by omega)]
      exact hc h' (by omega) (by omega) h3)
    refine ⟨c', ?_, l.trans hl1, fun h' => ?_⟩
    · rw [hstep, r, List.range'_succ]
      simp [Nat.add_assoc, Nat.add_comm 1 k]
    · rw [g h', hget h']
      by_cases e : h = h'
      · subst e
        rw [if_neg (by omega), if_pos ⟨rfl, by omega⟩, if_pos ⟨Nat.le_refl _, by omega⟩]
      · rw [if_neg (fun a : h = h' ∧ h < c.length => e a.1)]
        exact if_congr (by omega) rfl rfl

end

theorem calcRoot_spec (H : HashAlg α) (n : Nat) (f : Nat → α) (i : Nat) (hi : i < 2^n) :
    calcRoot H (f i) ((List.range n).map (sibT H f i)) i = tn H f n 0 := by
  have h := calcRootAux_spec H f i n 0
  rwa [Nat.zero_add, Nat.pow_zero, Nat.div_one, tn_zero, ← List.range_eq_range', Nat.div_eq_of_lt hi] at h

/-- frontier invariant for a tree holding `cnt` leaves: at every level whose bit is set in `cnt`,
    the cache holds the completed left sibling. Other levels are don't-care. -/
def FrontierOK (H : HashAlg α) (n : Nat) (f : Nat → α) (c : List α) (cnt : Nat) : Prop :=
  c.length = n ∧ ∀ h, h < n → (cnt / 2^h) % 2 = 1 → c.getD h H.zero = tn H f h (cnt / 2^h - 1)

section
variable {H : HashAlg α} {n : Nat} {f : Nat → α} {c : List α} {i : Nat}

theorem FrontierOK.sib (hfr : FrontierOK H n f c i) {h : Nat} (hh : h < n) (hb : i.testBit h = true) :
    c.getD h H.zero = sibT H f i h := by
  have hb' := (testBit_iff i h).mp hb
  rw [hfr.2 h hh hb', sibT, sibIdx, if_pos hb']

/-- Writing a frontier: once position `i` is written, a cache is a frontier for `i+1` leaves if it holds, at the levels
    whose bit is set in `i+1`, the left child of the node on `i`'s path. With or without a carry into level `h` that
    child is the completed left sibling of position `i+1`, so nobody who establishes `FrontierOK … (i+1)` (`AddLeaf`,
    `initCache`) has to look at carries. -/
theorem FrontierOK.of_left (hlen : c.length = n)
    (hc : ∀ h, h < n → ((i+1) / 2^h) % 2 = 1 → c.getD h H.zero = (pathNode H f i h).left) :
    FrontierOK H n f c (i+1) := by
  refine ⟨hlen, fun h hh hb => ?_⟩
  rw [hc h hh hb]
  show tn H f h (2 * (i / 2^(h+1))) = _
  rw [div_pow_succ]
  have e := Nat.div_add_mod (i / 2^h) 2
  rcases succ_div_cases i h with hq | hq
  · rw [hq] at hb ⊢
    rw [hb] at e
    rw [Nat.sub_eq_of_eq_add e.symm]
  · rw [hq] at hb ⊢
    rw [Nat.succ_mod_two_eq_one_iff.mp hb, Nat.add_zero] at e
    rw [e, Nat.add_sub_cancel]

/-- `AddLeaf` at the next index of a tree with a valid frontier: besides root and path nodes it leaves the cache that
    `initCache` would rebuild, the left children along the path of `i` -/
theorem addLoop_left (v : α) (hz : ∀ j, i ≤ j → f j = H.zero) (hfr : FrontierOK H n f c i) :
    ∃ c', addLoop H i n 0 c v [] =
        (c', tn H (updateFn f i v) n (i / 2^n), (List.range' 0 n).map (pathNode H (updateFn f i v) i)) ∧
      c'.length = n ∧ ∀ h, h < n → c'.getD h H.zero = (pathNode H (updateFn f i v) i h).left := by
  obtain ⟨c', e, l, g⟩ := addLoop_spec H (updateFn f i v) i (fun j hj => (if_neg (by omega)).trans (hz j (by omega)))
    n 0 c [] (by rw [hfr.1]; omega) (fun h _ hh hb => by rw [hfr.sib (by omega) hb, sibT_update])
  have hv : tn H (updateFn f i v) 0 (i / 2^0) = v := by simp [tn_zero, updateFn]
  rw [hv, Nat.zero_add, List.nil_append] at e
  exact ⟨c', e, l.trans hfr.1, fun h hh => (g h).trans (if_pos ⟨Nat.zero_le _, by omega⟩)⟩

/-- the cache writes of a (later failing) AddLeaf at the next index keep the frontier valid: where a bit of `i` is
    set, the left child on the path is the left sibling the cache held before -/
theorem addLoop_keeps_frontier (v : α) (hz : ∀ j, i ≤ j → f j = H.zero) (hfr : FrontierOK H n f c i) :
    FrontierOK H n f (addLoop H i n 0 c v []).1 i := by
  obtain ⟨c', e, l, g⟩ := addLoop_left v hz hfr
  rw [e]
  refine ⟨l, fun h hh hb => ?_⟩
  have hb' := (testBit_iff i h).mpr hb
  have hs := pathNode_sib H (updateFn f i v) i h
  rw [hb', if_pos rfl, sibT_update, ← hfr.sib hh hb'] at hs
  rw [g h hh, hs]
  exact hfr.2 h hh hb

end

theorem addLoop_full (H : HashAlg α) (n : Nat) (f : Nat → α) (i : Nat) (v : α) (c : List α)
    (hz : ∀ j, i ≤ j → f j = H.zero) (hfr : FrontierOK H n f c i) :
    let f' := updateFn f i v
    (addLoop H i n 0 c v []).2.1 = tn H f' n (i / 2^n) ∧
    (addLoop H i n 0 c v []).2.2 = (List.range' 0 n).map (pathNode H f' i) ∧
    FrontierOK H n f' (addLoop H i n 0 c v []).1 (i+1) := by
  obtain ⟨c', e, l, g⟩ := addLoop_left v hz hfr
  rw [e]
  exact ⟨rfl, rfl, .of_left l (fun h hh _ => g h hh)⟩

theorem frontier_of_initWalk (H : HashAlg α) (n : Nat) (f : Nat → α) (i : Nat) :
    FrontierOK H n f ((List.range n).map (fun h' => (pathNode H f i h').left)) (i+1) :=
  .of_left (by simp) (fun h hh _ => by
    rw [List.getD_eq_getElem?_getD, List.getElem?_map, List.getElem?_range hh, Option.map_some, Option.getD_some])

def Consistent (H : HashAlg α) (rht : List (Node α)) : Prop := ∀ nd ∈ rht, nd.hash = H.node nd.left nd.right

def ZeroOutside (H : HashAlg α) (f : Nat → α) (W : Nat → Prop) : Prop := ∀ j, ¬ W j → f j = H.zero

theorem zeroOutside_update {H : HashAlg α} {f : Nat → α} {W : Nat → Prop} (hzo : ZeroOutside H f W) (i : Nat) (v : α) :
    ZeroOutside H (updateFn f i v) (fun p => W p ∨ p = i) := by
  intro j hj
  rw [updateFn, if_neg (fun e => hj (Or.inr e))]
  exact hzo j (fun hw => hj (Or.inl hw))

/-- the nodes written by `AddLeaf` / `UpsertLeaf` for position `i` -/
def pathNodes (H : HashAlg α) (n : Nat) (f : Nat → α) (i : Nat) : List (Node α) :=
  (List.range' 0 n).map (pathNode H f i)

theorem pathNodes_consistent (H : HashAlg α) (n : Nat) (f : Nat → α) (i : Nat) : Consistent H (pathNodes H n f i) := by
  intro nd hnd
  obtain ⟨h, _, rfl⟩ := List.mem_map.mp hnd
  rfl

theorem RootRow.after_iff {a b : RootRow α} :
    a.after b = true ↔ b.blockNum < a.blockNum ∨ (b.blockNum = a.blockNum ∧ b.blockPos < a.blockPos) := by
  rw [RootRow.after, Bool.or_eq_true, decide_eq_true_eq, Bool.and_eq_true, beq_iff_eq, decide_eq_true_eq, eq_comm]

theorem getLastRoot_concat (db : TreeDb α) (rs : List (RootRow α)) (r : RootRow α) (hr : db.roots = rs ++ [r])
    (h : ∀ x ∈ rs, r.after x = true) : getLastRoot db = some r := by
  unfold getLastRoot
  rw [hr, List.foldl_append]
  -- the scan keeps, as best so far, a row it has seen: whatever `best` it reaches loses to `r` in the last step
  refine List.foldlRecOn (motive := fun best => List.foldl _ best [r] = some r) rs _ rfl fun best hb x hx => ?_
  rcases best with _ | b
  · exact if_pos (h x hx)
  · dsimp only
    cases x.after b
    · exact hb
    · exact if_pos (h x hx)

section store
variable [DecidableEq α]

def Present (rht : List (Node α)) (k : α) : Prop := (lookup rht k).isSome = true

/-- every subtree (of height ≥ 1) of the version `(f, W)` that contains a written position is stored -/
def Closed (H : HashAlg α) (n : Nat) (rht : List (Node α)) (f : Nat → α) (W : Nat → Prop) : Prop :=
  ∀ h q, h < n → (∃ p, W p ∧ p / 2^(h+1) = q) → Present rht (tn H f (h+1) q)

theorem storeRoot_ok {db db' : TreeDb α} {r : RootRow α} (h : storeRoot db r = .ok db') :
    db' = { db with roots := db.roots ++ [r] } := by
  unfold storeRoot at h
  split at h
  · cases h
  · exact (Except.ok.inj h).symm

section
variable {H : HashAlg α} {n : Nat} {rht ns : List (Node α)} {f : Nat → α} {W : Nat → Prop}

theorem present_iff_mem {k : α} : Present rht k ↔ ∃ nd ∈ rht, nd.hash = k := by
  unfold Present lookup
  rw [List.find?_isSome]
  simp

theorem storeNodes_mono {k : α} (h : Present rht k) : Present (storeNodes rht ns) k := by
  refine List.foldlRecOn (motive := (Present · k)) ns _ h fun acc ha nd _ => ?_
  split
  · exact ha
  · obtain ⟨x, h1, h2⟩ := present_iff_mem.mp ha
    exact present_iff_mem.mpr ⟨x, List.mem_append_left _ h1, h2⟩

theorem storeNodes_present {nd : Node α} (h : nd ∈ ns) : Present (storeNodes rht ns) nd.hash := by
  induction ns generalizing rht with
  | nil => simp at h
  | cons x ns ih =>
    rw [storeNodes, List.foldl_cons]
    rcases List.mem_cons.mp h with rfl | e
    · refine storeNodes_mono ?_
      split
      · assumption
      · rw [present_iff_mem]
        exact ⟨nd, by simp, rfl⟩
    · exact ih e

theorem storeNodes_consistent (h1 : Consistent H rht) (h2 : Consistent H ns) :
    Consistent H (storeNodes rht ns) := by
  refine List.foldlRecOn (motive := Consistent H) ns _ h1 fun acc ha x hx => ?_
  split
  · exact ha
  · exact forall_mem_concat.mpr ⟨ha, h2 x hx⟩

theorem closed_mono (h : Closed H n rht f W) : Closed H n (storeNodes rht ns) f W :=
  fun h' q hlt hp => storeNodes_mono (h h' q hlt hp)

theorem closed_update (i : Nat) (v : α) (hcl : Closed H n rht f W) :
    Closed H n (storeNodes rht (pathNodes H n (updateFn f i v) i)) (updateFn f i v) (fun p => W p ∨ p = i) := by
  intro h q hh ⟨p, hp, hpq⟩
  by_cases hq : i / 2^(h+1) = q
  · -- on the path: just stored
    rw [← hq, ← pathNode_hash]
    exact storeNodes_present (List.mem_map.mpr ⟨h, List.mem_range'_1.mpr ⟨Nat.zero_le _, by omega⟩, rfl⟩)
  · -- off the path: unchanged subtree of the old version
    rw [tn_updateFn H f i v _ q hq]
    exact storeNodes_mono (hcl h q hh ⟨p, hp.resolve_right (fun e => hq (e ▸ hpq)), hpq⟩)

theorem getSiblingsAux_miss (idx : Nat) (cur : α)
    (hmiss : lookup rht cur = none) (h : Nat) (acc : List α) (z : Bool) :
    (getSiblingsAux H rht idx h cur acc z).1 = (List.range h).map (zeroH H) ++ acc := by
  fun_induction getSiblingsAux H rht idx h cur acc z
  case case1 => rfl
  case case2 ih => simp [ih hmiss, List.range_succ]
  case case3 hl _ _ | case4 hl _ _ => cases hmiss.symm.trans hl

theorem getSiblingsAux_hit (idx : Nat) {cur : α} {nd : Node α}
    (hl : lookup rht cur = some nd) (h : Nat) (acc : List α) (z : Bool) :
    getSiblingsAux H rht idx (h+1) cur acc z =
      getSiblingsAux H rht idx h (if idx.testBit h then nd.right else nd.left)
        ((if idx.testBit h then nd.left else nd.right) :: acc) z := by
  rw [getSiblingsAux, hl]
  cases idx.testBit h <;> rfl

variable (hinj : H.Inj) (hcons : Consistent H rht) (hcl : Closed H n rht f W) (i : Nat)
include hinj hcons

/-- content addressing: with collision-freedom, what a consistent store holds under the hash of `i`'s ancestor is the
    spec node, whoever wrote it and for whichever version -/
theorem lookup_path {h : Nat} {nd : Node α}
    (hl : lookup rht (tn H f (h+1) (i / 2^(h+1))) = some nd) : nd = pathNode H f i h := by
  have h1 : nd.hash = tn H f (h+1) (i / 2^(h+1)) := by simpa using List.find?_some hl
  have h2 := List.mem_of_find?_eq_some hl
  obtain ⟨hash, l, r⟩ := nd
  have e := (hcons _ h2).symm.trans h1
  obtain ⟨rfl, rfl⟩ := hinj _ _ _ _ (e.trans (tn_succ ..))
  simp only at h1
  subst h1
  simp only [pathNode, mkNode, tn_succ]

include hcl

theorem getSiblingsAux_spec (hzo : ZeroOutside H f W) :
    ∀ (h : Nat) (acc : List α) (z : Bool), h ≤ n →
      (getSiblingsAux H rht i h (tn H f h (i / 2^h)) acc z).1 = (List.range h).map (sibT H f i) ++ acc := by
  intro h
  induction h with
  | zero =>
    intro acc z _
    rfl
  | succ h ih =>
    intro acc z hle
    cases hl : lookup rht (tn H f (h+1) (i / 2^(h+1))) with
    | none =>
      -- nothing is written below this node, so all remaining siblings are zero subtrees
      have hz : ∀ j, j / 2^(h+1) = i / 2^(h+1) → f j = H.zero := fun j hj => hzo j (fun hw => by
        have := hcl h _ (by omega) ⟨j, hw, hj⟩
        simp [Present, hl] at this)
      rw [getSiblingsAux_miss i _ hl]
      congr 1
      exact List.map_congr_left (fun h' hh' => (sibT_zero_of H f i h' (h+1) (List.mem_range.mp hh') hz).symm)
    | some nd =>
      obtain rfl := lookup_path hinj hcons i hl
      rw [getSiblingsAux_hit i hl, pathNode_child, pathNode_sib, ih _ _ (by omega), List.range_succ,
        List.map_append, List.append_assoc]
      rfl

variable (hw : W i)
include hw

theorem lookup_written {h : Nat} (hh : h < n) :
    lookup rht (tn H f (h+1) (i / 2^(h+1))) = some (pathNode H f i h) := by
  obtain ⟨nd, hl⟩ := Option.isSome_iff_exists.mp (hcl h _ hh ⟨i, hw, rfl⟩)
  rw [hl, lookup_path hinj hcons i hl]

theorem getLeafAux_spec : ∀ (h : Nat), h ≤ n → getLeafAux rht i h (tn H f h (i / 2^h)) = .ok (f i) := by
  intro h
  induction h with
  | zero =>
    intro _
    simp [getLeafAux, tn_zero]
  | succ h ih =>
    intro hle
    rw [getLeafAux, lookup_written hinj hcons hcl i hw hle]
    simp only
    rw [← apply_ite (getLeafAux rht i h), pathNode_child, ih (by omega)]

theorem initWalk_spec : ∀ (h : Nat) (acc : List α), h ≤ n →
    initWalk rht i h (tn H f h (i / 2^h)) acc =
      .ok ((List.range h).map (fun h' => (pathNode H f i h').left) ++ acc) := by
  intro h
  induction h with
  | zero =>
    intro acc _
    rfl
  | succ h ih =>
    intro acc hle
    rw [initWalk, lookup_written hinj hcons hcl i hw hle]
    simp only
    rw [← apply_ite (fun c => initWalk rht i h c _), pathNode_child, ih _ (by omega), List.range_succ]
    simp

end

/-- **leaf lookup is the spec** for every written position -/
theorem getLeaf_spec (H : HashAlg α) (hinj : H.Inj) (n : Nat) (db : TreeDb α)
    (f : Nat → α) (W : Nat → Prop) (hcons : Consistent H db.rht) (hcl : Closed H n db.rht f W)
    (i : Nat) (hi : i < 2^n) (hw : W i) : getLeaf n db i (tn H f n 0) = .ok (f i) := by
  have := getLeafAux_spec hinj hcons hcl i hw n (Nat.le_refl _)
  rwa [Nat.div_eq_of_lt hi] at this

/-- **proof lookup is the spec**: under the store invariant, for EVERY position (written or not) -/
theorem getSiblings_spec (H : HashAlg α) (hinj : H.Inj) (n : Nat) (rht : List (Node α))
    (f : Nat → α) (W : Nat → Prop) (hcons : Consistent H rht) (hcl : Closed H n rht f W)
    (hzo : ZeroOutside H f W) (i : Nat) (hi : i < 2^n) :
    (getSiblings H n rht i (tn H f n 0)).1 = (List.range n).map (sibT H f i) := by
  have := getSiblingsAux_spec hinj hcons hcl i hzo n [] false (Nat.le_refl _)
  rwa [Nat.div_eq_of_lt hi, List.append_nil] at this

/-- **a closed, consistent store serves the version `(f, W)`**: every written position is returned with a proof that
    hashes to the version's root -/
theorem served_spec {H : HashAlg α} (hinj : H.Inj) {n : Nat} {db : TreeDb α} {f : Nat → α} {W : Nat → Prop}
    (hcons : Consistent H db.rht) (hcl : Closed H n db.rht f W) (hzo : ZeroOutside H f W) {p : Nat} (hp : p < 2^n) (hw : W p) :
    getLeaf n db p (tn H f n 0) = .ok (f p) ∧ calcRoot H (f p) (getProof H n db p (tn H f n 0)) p = tn H f n 0 := by
  rw [getProof, getSiblings_spec H hinj n db.rht f W hcons hcl hzo p hp]
  exact ⟨getLeaf_spec H hinj n db f W hcons hcl p hp hw, calcRoot_spec H n f p hp⟩

end store
end Aggkit
