import AggkitModel.Model.ReorgSync
import AggkitModel.Proofs.Lists
/-
The per-subscriber invariant `SubInv` of tracking and detection, and what each operation of the model does to it: a driver
step, a detection pass (complete or interrupted), a restart, a change of the chain or of the finalized block.
-/
namespace Aggkit.ReorgSync

/-- the block is the chain's current block of that number -/
def Canon (chain : List Nat) (b : Blk) : Prop := canon chain b.1 = some b.2

instance (chain : List Nat) (b : Blk) : Decidable (Canon chain b) := inferInstanceAs (Decidable (_ = _))

structure SubInv (chain : List Nat) (fin : Nat) (s : Sub) : Prop where
  /-- every stored block is tracked, or was delivered as finalized (and is then on the chain for good) -/
  covered : ∀ b ∈ s.store, b ∈ s.tracked ∨ (Canon chain b ∧ b.1 ≤ fin)
  trackedStored : ∀ b ∈ s.tracked, b ∈ s.store
  sortedS : s.store.Pairwise (fun x y => x.1 < y.1)
  pos : ∀ b ∈ s.store, 1 ≤ b.1
  sortedT : s.tracked.Pairwise (fun x y => x.1 < y.1)
  /-- the table holds exactly the in-memory entries, in the same order (entries are only ever appended at the end) -/
  dbEq : s.db = s.tracked

abbrev Asc (l : List Blk) : Prop := l.Pairwise (fun x y => x.1 < y.1)

variable {chain : List Nat} {fin : Nat} {s s' : Sub}

theorem mem_pre_of_sorted {pre rest : List Blk} {t b : Blk} (h : Asc (pre ++ t :: rest))
    (hb : b ∈ pre ++ t :: rest) (hlt : b.1 < t.1) : b ∈ pre := by
  have h2 := (List.pairwise_cons.mp (List.pairwise_append.mp h).2.1).1
  rcases List.mem_append.mp hb with hb | hb
  · exact hb
  · rcases List.mem_cons.mp hb with rfl | hb
    · omega
    · have := h2 _ hb
      omega

theorem lastNum_concat (l : List Blk) (b : Blk) : lastNum (l ++ [b]) = b.1 := by
  unfold lastNum
  simp

theorem lastNum_append_cons (pre rest : List Blk) (t : Blk) : lastNum (pre ++ t :: rest) = lastNum (t :: rest) := by
  simp [lastNum, List.getLast?_cons]

theorem lastNum_mem (l : List Blk) (h : lastNum l ≠ 0) : ∃ b ∈ l, b.1 = lastNum l := by
  revert h
  fun_cases lastNum l <;> intro h
  case case1 b hg => exact ⟨b, List.mem_of_getLast? hg, rfl⟩
  case case2 => exact absurd rfl h

theorem le_lastNum_of_sorted {l : List Blk} (hs : Asc l) : ∀ x ∈ l, x.1 ≤ lastNum l :=
  pairwise_le_of_getLast (key := Prod.fst) hs fun z hz => by unfold lastNum; rw [hz]; exact Nat.le_refl _

@[simp] theorem canon_zero : canon chain 0 = none := rfl
@[simp] theorem canon_succ {n : Nat} : canon chain (n + 1) = chain[n]? := rfl

theorem canon_eq_none {n : Nat} : canon chain n = none ↔ n = 0 ∨ chain.length < n := by
  cases n with
  | zero => exact ⟨fun _ => Or.inl rfl, fun _ => rfl⟩
  | succ n =>
    rw [canon_succ, List.getElem?_eq_none_iff]
    omega

theorem canon_some_le {n v : Nat} (h : canon chain n = some v) : 1 ≤ n ∧ n ≤ chain.length := by
  have := mt canon_eq_none.mpr (h ▸ Option.some_ne_none v)
  omega

theorem canon_mem {n v : Nat} (h : canon chain n = some v) : v ∈ chain := by
  cases n with
  | zero => cases h
  | succ n => exact List.mem_of_getElem? h

theorem canon_drop {n k : Nat} : canon chain (n + 1 + k) = (chain.drop n)[k]? := by
  rw [List.getElem?_drop, Nat.add_right_comm]
  rfl

theorem canon_append {v n : Nat} (h : n ≤ chain.length) : canon (chain ++ [v]) n = canon chain n := by
  cases n with
  | zero => rfl
  | succ n => exact List.getElem?_append_left h

theorem canon_take {k n : Nat} (h : n < k) : canon (chain.take (k - 1)) n = canon chain n := by
  cases n with
  | zero => rfl
  | succ n => exact List.getElem?_take_of_lt (Nat.lt_sub_of_add_lt h)

theorem canon_append_cases {v n w : Nat} (h : canon (chain ++ [v]) n = some w) :
    (n ≤ chain.length ∧ canon chain n = some w) ∨ (n = chain.length + 1 ∧ w = v) := by
  have hle := (canon_some_le h).2
  rw [List.length_append, List.length_singleton] at hle
  by_cases hn : n ≤ chain.length
  · exact Or.inl ⟨hn, canon_append (v := v) hn ▸ h⟩
  · obtain rfl : n = chain.length + 1 := by omega
    exact Or.inr ⟨rfl, by simpa using h.symm⟩

theorem canon_take_some {k n w : Nat} (h : canon (chain.take (k - 1)) n = some w) :
    n < k ∧ canon chain n = some w := by
  have hn := canon_some_le h
  rw [List.length_take] at hn
  have hk : n < k := by omega
  exact ⟨hk, canon_take hk ▸ h⟩

theorem findFrom_some {l : List Nat} {n : Nat} {b : Blk} (h : findFrom l n = some b) :
    ∃ k, b.1 = n + k ∧ l[k]? = some b.2 ∧ b.2 ≠ 0 ∧ ∀ j < k, l[j]? = some 0 := by
  fun_induction findFrom l n with
  | case1 => cases h
  | case2 rest n ih =>
    obtain ⟨k, h1, h2, h3, h4⟩ := ih h
    exact ⟨k + 1, h1.trans (Nat.add_right_comm ..), h2, h3, fun
      | 0, _ => rfl
      | j + 1, hj => h4 j (Nat.lt_of_succ_lt_succ hj)⟩
  | case3 v rest n hv =>
    cases h
    exact ⟨0, rfl, rfl, hv, fun j hj => nomatch hj⟩

theorem findFrom_none {l : List Nat} {n : Nat} (h : findFrom l n = none) : ∀ v ∈ l, v = 0 := by
  fun_induction findFrom l n with
  | case1 => exact fun v hv => nomatch hv
  | case2 rest n ih => exact fun v hv => (List.mem_cons.mp hv).elim id (ih h v)
  | case3 => cases h

theorem nextDeliv_some {n : Nat} {b : Blk} (h : nextDeliv chain (n + 1) = some b) :
    n < b.1 ∧ Canon chain b ∧ b.2 ≠ 0 ∧ ∀ m, n < m → m < b.1 → canon chain m = some 0 := by
  obtain ⟨k, h1, h2, h3, h4⟩ := findFrom_some h
  refine ⟨by omega, ?_, h3, fun m hm1 hm2 => ?_⟩
  · rw [Canon, h1, canon_drop]
    exact h2
  · obtain ⟨j, rfl⟩ := Nat.exists_eq_add_of_lt hm1
    rw [Nat.add_right_comm, canon_drop]
    exact h4 j (by omega)

theorem nextDeliv_none {n m v : Nat} (h : nextDeliv chain (n + 1) = none) (hm : n < m)
    (hc : canon chain m = some v) : v = 0 := by
  obtain ⟨j, rfl⟩ := Nat.exists_eq_add_of_lt hm
  rw [Nat.add_right_comm, canon_drop] at hc
  exact findFrom_none h v (List.mem_of_getElem? hc)

theorem mem_trackAdd {tracked : List Blk} {b x : Blk} :
    x ∈ trackAdd tracked b ↔ x = b ∨ x ∈ tracked ∧ (b ∈ tracked ∨ x.1 ≠ b.1) := by
  fun_cases trackAdd tracked b
  next h => exact ⟨fun hx => Or.inr ⟨hx, Or.inl h⟩, fun hx => hx.elim (· ▸ h) (·.1)⟩
  next h =>
    simp only [List.mem_append, List.mem_filter, List.mem_singleton, decide_eq_true_eq, h, false_or, Nat.ne_iff_lt_or_gt,
      and_or_left, or_assoc, or_left_comm]

theorem trackAdd_sorted {tracked : List Blk} {b : Blk} (hs : Asc tracked) :
    Asc (trackAdd tracked b) := by
  fun_cases trackAdd tracked b
  · exact hs
  · exact pairwise_lt_insert (key := Prod.fst) hs b

theorem trackAdd_append {tracked : List Blk} {b : Blk} (h : ∀ x ∈ tracked, x.1 < b.1) :
    trackAdd tracked b = tracked ++ [b] := by
  rw [trackAdd, if_neg fun hb => Nat.lt_irrefl _ (h b hb),
    List.filter_eq_self.mpr fun x hx => decide_eq_true (h x hx),
    List.filter_eq_nil_iff.mpr fun x hx => by have := h x hx; simp only [decide_eq_true_eq]; omega, List.append_nil]

theorem trackAdd_perm {acc : List Blk} {r : Blk} (h : ∀ a ∈ acc, a.1 ≠ r.1) : (trackAdd acc r).Perm (r :: acc) := by
  have h2 : acc.filter (fun t => decide (r.1 < t.1)) = acc.filter (fun t => !decide (t.1 < r.1)) :=
    List.filter_congr fun x hx => by have := h x hx; simp only [← decide_not, decide_eq_decide]; omega
  rw [trackAdd, if_neg fun hr => h r hr rfl, h2, List.append_assoc]
  exact List.perm_middle.trans ((List.filter_append_perm _ _).cons r)

/-- rebuilding the map sorts: rows that are, in some order, the entries of an ascending list are rebuilt into that list -/
theorem foldl_trackAdd_eq {l : List Blk} (hl : Asc l) (rows acc : List Blk)
    (hs : Asc acc) (hp : (acc ++ rows).Perm l) : rows.foldl trackAdd acc = l := by
  induction rows generalizing acc with
  | nil =>
    exact List.Perm.eq_of_pairwise (le := fun x y => x.1 < y.1) (fun a b _ _ h1 h2 => by omega) hs hl
      (List.append_nil acc ▸ hp)
  | cons r rest ih =>
    -- the numbers of `acc ++ r :: rest` are distinct, because those of `l` are
    have hd : (acc ++ r :: rest).Pairwise (fun x y => x.1 ≠ y.1) :=
      (hp.pairwise_iff fun {x y} (h : x.1 ≠ y.1) => h.symm).mpr (hl.imp Nat.ne_of_lt)
    have hne : ∀ a ∈ acc, a.1 ≠ r.1 := fun a ha => (List.pairwise_append.mp hd).2.2 a ha r (List.mem_cons_self ..)
    exact ih _ (trackAdd_sorted hs) (((trackAdd_perm hne).append_right rest).trans (List.perm_middle.symm.trans hp))

theorem reload_eq_of_perm {rows l : List Blk} (hp : rows.Perm l) (hl : Asc l) : reload rows = l :=
  foldl_trackAdd_eq hl rows [] .nil hp

theorem restartSub_eq (hi : SubInv chain fin s) : restartSub s = s := by
  rw [restartSub, reload_eq_of_perm (hi.dbEq ▸ .refl _) hi.sortedT]

theorem stepOnce_some (hi : SubInv chain fin s)
    (h : stepOnce chain fin s = some s') :
    ∃ b, Canon chain b ∧ b.2 ≠ 0 ∧ lastNum s.store < b.1 ∧ (∀ x ∈ s.store, x.1 < b.1) ∧
      (∀ m, lastNum s.store < m → m < b.1 → canon chain m = some 0) ∧ s'.store = s.store ++ [b] ∧
      s' = if b.1 ≤ fin then { s with store := s.store ++ [b] }
           else { store := s.store ++ [b], tracked := s.tracked ++ [b], db := s.db ++ [b] } := by
  revert h
  fun_cases stepOnce chain fin s <;> intro h
  case case1 => cases h
  case case2 b hc =>
    cases h
    obtain ⟨hlast, hcan, hnz, hskip⟩ := nextDeliv_some hc
    have hlt : ∀ x ∈ s.store, x.1 < b.1 := fun x hx =>
      Nat.lt_of_le_of_lt (le_lastNum_of_sorted hi.sortedS x hx) hlast
    -- everything tracked lies below `b`, so `trackAdd` and the table's insert are plain appends
    have hall : ∀ x ∈ s.tracked, x.1 < b.1 := fun x hx => hlt x (hi.trackedStored x hx)
    refine ⟨b, hcan, hnz, hlast, hlt, hskip, rfl, ?_⟩
    by_cases hf : b.1 ≤ fin
    · simp only [if_pos hf]
    · simp only [if_neg hf, trackAdd_append hall, if_neg fun hb => Nat.lt_irrefl _ (hall b hb)]

theorem stepOnce_eq_none (h : stepOnce chain fin s = none) :
    nextDeliv chain (lastNum s.store + 1) = none := by
  unfold stepOnce at h
  split at h
  · assumption
  · cases h

theorem stepOnce_inv (hi : SubInv chain fin s)
    (h : stepOnce chain fin s = some s') : SubInv chain fin s' := by
  obtain ⟨b, hcan, -, hlast, hlt, -, -, rfl⟩ := stepOnce_some hi h
  have hS := pairwise_concat hi.sortedS hlt
  have hP : ∀ x ∈ s.store ++ [b], 1 ≤ x.1 := forall_mem_concat.mpr ⟨hi.pos, Nat.succ_le_of_lt (Nat.zero_lt_of_lt hlast)⟩
  split
  next hf =>
    exact ⟨forall_mem_concat.mpr ⟨hi.covered, Or.inr ⟨hcan, hf⟩⟩, fun x hx => List.mem_append_left _ (hi.trackedStored x hx),
      hS, hP, hi.sortedT, hi.dbEq⟩
  next =>
    exact ⟨forall_mem_concat.mpr ⟨fun x hx => (hi.covered x hx).imp_left (List.mem_append_left _), Or.inl List.mem_concat_self⟩,
      forall_mem_concat.mpr ⟨fun x hx => List.mem_append_left _ (hi.trackedStored x hx), List.mem_concat_self⟩,
      hS, hP, pairwise_concat hi.sortedT fun x hx => hlt x (hi.trackedStored x hx), congrArg (· ++ [b]) hi.dbEq⟩

/-- induction over the driver's steps; the run ends with nothing left to deliver or at least `k` block numbers further -/
theorem stepN_induct (P : Sub → Prop)
    (hP : ∀ s s', SubInv chain fin s → P s → stepOnce chain fin s = some s' → P s') (k : Nat) (hi : SubInv chain fin s)
    (h : P s) : SubInv chain fin (stepN chain fin k s) ∧ P (stepN chain fin k s) ∧
      (stepOnce chain fin (stepN chain fin k s) = none ∨ lastNum s.store + k ≤ lastNum (stepN chain fin k s).store) := by
  fun_induction stepN chain fin k s with
  | case1 s => exact ⟨hi, h, Or.inr (Nat.le_refl _)⟩
  | case2 k s hs => exact ⟨hi, h, Or.inl hs⟩
  | case3 k s s' hs ih =>
    obtain ⟨b, -, -, hlast, -, -, hst, -⟩ := stepOnce_some hi hs
    refine (ih (stepOnce_inv hi hs) (hP s s' hi h hs)).imp id (.imp id (.imp_right fun _ => ?_))
    rw [hst, lastNum_concat] at *
    omega

theorem stepN_inv (k : Nat) (hi : SubInv chain fin s) : SubInv chain fin (stepN chain fin k s) :=
  (stepN_induct (fun _ => True) (fun _ _ _ _ _ => trivial) k hi trivial).1

/-! ### one detection pass

The tracked list splits as `pre ++ post`: `pre` the headers that are the chain's, `post` starting with the first one that is
not. `detectLoop` and `detectLoopCrash` walk over `pre` in the same way, dropping the finalized entries (`dropFinal`), and
differ only in what they do with the head of `post` (`detectNotifyLoop`, the first half of `detectLoop`, is compared with it
directly in Properties/C06). -/

/-- `removeTrackedBlockRange(id, n, n)` of a header found on the chain and finalized; by unfolding, the
    `let s := if t.1 ≤ fin …` of the three loops in the model -/
def dropFinal (fin : Nat) (s : Sub) (t : Blk) : Sub :=
  if t.1 ≤ fin then { s with tracked := s.tracked.filter (fun x => decide (x.1 ≠ t.1)),
                             db := s.db.filter (fun x => decide (x.1 ≠ t.1)) } else s

theorem dropFinal_store (fin : Nat) (s : Sub) (t : Blk) : (dropFinal fin s t).store = s.store := by
  fun_cases dropFinal fin s t <;> rfl

theorem dropFinal_sublist (fin : Nat) (s : Sub) (t : Blk) : (dropFinal fin s t).tracked.Sublist s.tracked := by
  fun_cases dropFinal fin s t
  · exact List.filter_sublist
  · exact .refl _

/-- the stored block that the dropped header covered is from then on covered by being final -/
theorem dropFinal_inv {t : Blk} (hi : SubInv chain fin s) (htc : Canon chain t)
    (hu : ∀ b ∈ s.tracked, b.1 = t.1 → b = t) : SubInv chain fin (dropFinal fin s t) := by
  fun_cases dropFinal fin s t
  next hf =>
    refine { hi with
      covered := fun b hb => ?_, trackedStored := fun b hb => hi.trackedStored b (List.mem_filter.mp hb).1,
      sortedT := hi.sortedT.sublist List.filter_sublist, dbEq := congrArg _ hi.dbEq }
    rcases hi.covered b hb with h | h
    · by_cases e : b.1 = t.1
      · rw [hu b h e]
        exact Or.inr ⟨htc, hf⟩
      · exact Or.inl (List.mem_filter.mpr ⟨h, by simpa using e⟩)
    · exact Or.inr h
  next => exact hi

theorem foldl_dropFinal (pre : List Blk) (s : Sub) (hi : SubInv chain fin s)
    (hc : ∀ t ∈ pre, Canon chain t) (hu : ∀ t ∈ pre, ∀ b ∈ s.tracked, b.1 = t.1 → b = t) :
    SubInv chain fin (pre.foldl (dropFinal fin) s) ∧ (pre.foldl (dropFinal fin) s).store = s.store ∧
      (pre.foldl (dropFinal fin) s).tracked.Sublist s.tracked := by
  induction pre generalizing s with
  | nil => exact ⟨hi, rfl, .refl _⟩
  | cons t pre ih =>
    have hsub := dropFinal_sublist fin s t
    obtain ⟨h1, h2, h3⟩ := ih (dropFinal fin s t)
      (dropFinal_inv hi (hc t (List.mem_cons_self ..)) (hu t (List.mem_cons_self ..)))
      (fun x hx => hc x (List.mem_cons_of_mem _ hx)) (fun x hx b hb => hu x (List.mem_cons_of_mem _ hx) b (hsub.subset hb))
    exact ⟨h1, h2.trans (dropFinal_store ..), h3.trans hsub⟩

theorem walk_tracked (hi : SubInv chain fin s) :
    ∃ pre post, s.tracked = pre ++ post ∧ (∀ t ∈ pre, Canon chain t) ∧ (∀ t ∈ post.head?, ¬ Canon chain t) ∧
      SubInv chain fin (pre.foldl (dropFinal fin) s) ∧ (pre.foldl (dropFinal fin) s).store = s.store ∧
      (pre.foldl (dropFinal fin) s).tracked.Sublist s.tracked := by
  have hpre : ∀ t ∈ s.tracked.takeWhile (Canon chain ·), Canon chain t := fun t ht => by
    simpa using List.all_eq_true.mp List.all_takeWhile t ht
  exact ⟨_, s.tracked.dropWhile (Canon chain ·), List.takeWhile_append_dropWhile.symm, hpre,
    fun t ht => by
      have := List.head?_dropWhile_not (Canon chain ·) s.tracked
      rw [Option.mem_def.mp ht] at this
      simpa using this,
    foldl_dropFinal _ s hi hpre fun t ht b hb e =>
      pairwise_lt_inj (key := Prod.fst) hi.sortedT hb ((List.takeWhile_sublist _).subset ht) e⟩

theorem detectLoop_append {pre : List Blk} (post : List Blk) (s : Sub) (h : ∀ t ∈ pre, Canon chain t) :
    detectLoop chain fin (pre ++ post) s = detectLoop chain fin post (pre.foldl (dropFinal fin) s) := by
  induction pre generalizing s with
  | nil => rfl
  | cons t pre ih =>
    rw [List.cons_append, detectLoop, show canon chain t.1 = some t.2 from h t (List.mem_cons_self ..)]
    exact (if_pos rfl).trans (ih _ fun x hx => h x (List.mem_cons_of_mem _ hx))

theorem detectLoopCrash_eq {pre post : List Blk} (s : Sub) (h : ∀ t ∈ pre, Canon chain t)
    (hp : ∀ t ∈ post.head?, ¬ Canon chain t) :
    detectLoopCrash chain fin (pre ++ post) s = pre.foldl (dropFinal fin) s := by
  induction pre generalizing s with
  | nil =>
    show detectLoopCrash chain fin post s = s
    fun_cases detectLoopCrash chain fin post s
    case case3 t _ hc _ => exact absurd hc (hp t rfl)
    all_goals rfl
  | cons t pre ih =>
    rw [List.cons_append, detectLoopCrash, show canon chain t.1 = some t.2 from h t (List.mem_cons_self ..)]
    exact (if_pos rfl).trans (ih _ fun x hx => h x (List.mem_cons_of_mem _ hx))

/-- the rewind to `n` with the table's range delete `[n, m]`, `m` at or above everything tracked -/
theorem rewind_inv (hi : SubInv chain fin s) (n m : Nat)
    (hm : ∀ x ∈ s.tracked, x.1 ≤ m) :
    SubInv chain fin
      { store := s.store.filter (fun x => decide (x.1 < n)), tracked := s.tracked.filter (fun x => decide (x.1 < n)),
        db := s.db.filter (fun x => decide (x.1 < n ∨ m < x.1)) } := by
  refine ⟨fun b hb => ?_, fun b hb => ?_, hi.sortedS.sublist List.filter_sublist, fun b hb => hi.pos b (List.mem_filter.mp hb).1,
    hi.sortedT.sublist List.filter_sublist, ?_⟩
  · obtain ⟨hb, hn⟩ := List.mem_filter.mp hb
    exact (hi.covered b hb).imp_left fun h => List.mem_filter.mpr ⟨h, hn⟩
  · obtain ⟨hb, hn⟩ := List.mem_filter.mp hb
    exact List.mem_filter.mpr ⟨hi.trackedStored b hb, hn⟩
  · simp only [hi.dbEq]
    exact List.filter_congr fun x hx => by have := hm x hx; simp only [decide_eq_decide]; omega

structure PassOK (chain : List Nat) (fin : Nat) (s0 : Sub) (r : Sub × DetectOut) : Prop where
  inv : SubInv chain fin r.1
  /-- unless a header could not be fetched, nothing that the chain has replaced remains in the store -/
  clean : r.2 ≠ .err → ∀ b ∈ r.1.store, Canon chain b
  /-- a rewind goes to the first tracked block that the chain has replaced -/
  first : ∀ n, r.2 = .rewind n → (∃ b ∈ s0.tracked, b.1 = n ∧ ¬ Canon chain b) ∧ (∀ b ∈ s0.tracked, b.1 < n → Canon chain b) ∧
    r.1.store = s0.store.filter (fun x => decide (x.1 < n))
  quiet : (∀ b ∈ s0.tracked, Canon chain b) → r.2 = .none ∧ r.1.store = s0.store
  cut : r.1.store = s0.store ∨ ∃ m, r.1.store = s0.store.filter (fun x => decide (x.1 < m))
  /-- the pass stops with an error only at a tracked header whose number the chain does not have -/
  err : r.2 = .err → ∃ t ∈ s0.tracked, canon chain t.1 = none

theorem detectSub_spec (hi : SubInv chain fin s) :
    PassOK chain fin s (detectSub chain fin s) := by
  obtain ⟨pre, post, hT, hpre, hpost, hi', hst, hsub⟩ := walk_tracked hi
  have hasc := hi.sortedT
  rw [hT] at hasc
  rw [detectSub, hT, detectLoop_append post s hpre]
  -- for a stored block only the case that it is tracked needs an argument: otherwise it is final and on the chain
  have hclean : ∀ b ∈ s.store, (b ∈ s.tracked → Canon chain b) → Canon chain b := fun b hb h =>
    (hi.covered b hb).elim h (·.1)
  cases post with
  | nil =>
    rw [List.append_nil] at hT
    exact ⟨hi', fun _ b hb => hclean b (hst ▸ hb) fun h => hpre b (hT ▸ h), fun n h => (nomatch h), fun _ => ⟨rfl, hst⟩,
      Or.inl hst, fun h => (nomatch h)⟩
  | cons t rest =>
    have hnc : ¬ Canon chain t := hpost t rfl
    have hmem : t ∈ s.tracked := by rw [hT]; simp
    have hbelow : ∀ b ∈ s.tracked, b.1 < t.1 → Canon chain b := fun b hb hlt => hpre b (mem_pre_of_sorted hasc (hT ▸ hb) hlt)
    -- at `t` the loop stops: with an error if the chain has no block of that number, else with the rewind
    unfold detectLoop
    cases hc : canon chain t.1 with
    | none =>
      exact ⟨hi', fun h => absurd rfl h, fun n h => (nomatch h), fun hall => absurd (hall t hmem) hnc, Or.inl hst,
        fun _ => ⟨t, hmem, hc⟩⟩
    | some v =>
      simp only
      rw [if_neg fun e => hnc (hc.trans (congrArg some e))]
      refine ⟨rewind_inv hi' _ _ fun x hx => ?_, fun _ b hb => ?_, fun n hn => ?_, fun hall => absurd (hall t hmem) hnc,
        Or.inr ⟨t.1, by simp only [hst]⟩, fun h => (nomatch h)⟩
      · -- the table's range delete reaches up to the last number of the snapshot, which is the last number tracked
        rw [← lastNum_append_cons pre, ← hT]
        exact le_lastNum_of_sorted hi.sortedT x (hsub.subset hx)
      · obtain ⟨hb, hn⟩ := List.mem_filter.mp hb
        exact hclean b (hst ▸ hb) fun h => hbelow b h (by simpa using hn)
      · cases hn
        exact ⟨⟨t, hmem, rfl, hnc⟩, hbelow, by simp only [hst]⟩

theorem detectCrashSub_inv (hi : SubInv chain fin s) :
    SubInv chain fin (detectCrashSub chain fin s) ∧ (detectCrashSub chain fin s).store = s.store := by
  obtain ⟨pre, post, hT, hpre, hpost, hi', hst, -⟩ := walk_tracked hi
  rw [detectCrashSub, hT, detectLoopCrash_eq s hpre hpost, restartSub_eq hi']
  exact ⟨hi', hst⟩

theorem subInv_chain {chain' : List Nat} {fin' : Nat} (hi : SubInv chain fin s)
    (h : ∀ b : Blk, Canon chain b → b.1 ≤ fin → Canon chain' b ∧ b.1 ≤ fin') : SubInv chain' fin' s := by
  refine { hi with covered := fun b hb => ?_ }
  rcases hi.covered b hb with h1 | h1
  · exact Or.inl h1
  · exact Or.inr (h b h1.1 h1.2)

theorem subInv_append (v : Nat) (hi : SubInv chain fin s) : SubInv (chain ++ [v]) fin s :=
  subInv_chain hi fun _ hc hf => ⟨(canon_append (canon_some_le hc).2).trans hc, hf⟩

/-- a reorg above the finalized block -/
theorem subInv_take {k : Nat} (hk : fin < k) (hi : SubInv chain fin s) :
    SubInv (chain.take (k - 1)) fin s :=
  subInv_chain hi fun _ hc hf => ⟨(canon_take (Nat.lt_of_le_of_lt hf hk)).trans hc, hf⟩

theorem subInv_fin {f : Nat} (hf : fin ≤ f) (hi : SubInv chain fin s) : SubInv chain f s :=
  subInv_chain hi fun _ hc h => ⟨hc, Nat.le_trans h hf⟩

end Aggkit.ReorgSync
