import AggkitModel.Proofs.Lists
/-
Both downloaders list the blocks of a range `[f, t]` on which a per-block lookup answers, ascending (`Downloader.eventsIn`,
`LastGER.eventBlocks`): `scan` is that list, with what the loop invariants of C05 and C16 need of it.
-/
namespace Aggkit

def scan {β : Type} (g : Nat → Option β) (f t : Nat) : List (Nat × β) :=
  (List.range' f (t + 1 - f)).filterMap (fun b => (g b).map (fun e => (b, e)))

variable {β : Type} {g g' : Nat → Option β} {f m t : Nat}

theorem mem_range'_le_iff {b : Nat} : b ∈ List.range' f (t + 1 - f) ↔ f ≤ b ∧ b ≤ t := by
  rw [List.mem_range'_1]
  exact and_congr_right fun h => by
    rw [← Nat.sub_lt_iff_lt_add' h, Nat.lt_sub_iff_add_lt, Nat.sub_add_cancel h, Nat.lt_succ_iff]

theorem mem_scan {y : Nat × β} : y ∈ scan g f t ↔ f ≤ y.1 ∧ y.1 ≤ t ∧ g y.1 = some y.2 := by
  rw [scan, List.mem_filterMap]
  constructor
  · rintro ⟨b, hb, h⟩
    obtain ⟨e, he, rfl⟩ := Option.map_eq_some_iff.mp h
    exact ⟨(mem_range'_le_iff.mp hb).1, (mem_range'_le_iff.mp hb).2, he⟩
  · intro ⟨h1, h2, h3⟩
    exact ⟨y.1, mem_range'_le_iff.mpr ⟨h1, h2⟩, by rw [h3]; rfl⟩

theorem scan_sorted : (scan g f t).Pairwise (fun a b => a.1 < b.1) := by
  apply List.Pairwise.filterMap _ _ (List.pairwise_lt_range' (s := f) (n := t + 1 - f))
  intro a a' hlt b hb b' hb'
  obtain ⟨_, _, rfl⟩ := Option.map_eq_some_iff.mp hb
  obtain ⟨_, _, rfl⟩ := Option.map_eq_some_iff.mp hb'
  exact hlt

theorem scan_split (h1 : f ≤ m + 1) (h2 : m ≤ t) : scan g f t = scan g f m ++ scan g (m + 1) t := by
  have e := List.range'_append_1 (s := f) (m := m + 1 - f) (n := t + 1 - (m + 1))
  rw [Nat.add_sub_cancel' h1, Nat.add_comm (m + 1 - f), Nat.sub_add_sub_cancel (Nat.succ_le_succ h2) h1] at e
  rw [scan, scan, scan, ← List.filterMap_append, e]

theorem scan_eq_nil : scan g f t = [] ↔ ∀ b, f ≤ b → b ≤ t → g b = none := by
  rw [scan, List.filterMap_eq_nil_iff]
  exact forall_congr' fun b => by rw [mem_range'_le_iff, Option.map_eq_none_iff, and_imp]

theorem scan_congr (h : ∀ b, f ≤ b → b ≤ t → g b = g' b) : scan g f t = scan g' f t := by
  have hm : ∀ b ∈ List.range' f (t + 1 - f), g b = g' b := fun b hb =>
    h b (mem_range'_le_iff.mp hb).1 (mem_range'_le_iff.mp hb).2
  unfold scan
  generalize List.range' f (t + 1 - f) = l at hm
  induction l with
  | nil => rfl
  | cons a l ih =>
    rw [List.filterMap_cons, List.filterMap_cons, hm a List.mem_cons_self, ih fun b hb => hm b (List.mem_cons_of_mem _ hb)]

theorem scan_getLast? {y : Nat × β} (h : (scan g f t).getLast? = some y) :
    f ≤ y.1 ∧ y.1 ≤ t ∧ g y.1 = some y.2 ∧ ∀ x, y.1 < x → x ≤ t → g x = none := by
  obtain ⟨h1, h2, h3⟩ := mem_scan.mp (List.mem_of_getLast? h)
  refine ⟨h1, h2, h3, fun x hx1 hx2 => ?_⟩
  cases hg : g x with
  | none => rfl
  | some e =>
    -- `(x, e)` would be found too, and no block found lies above the last one
    exact absurd (pairwise_le_of_getLast (key := Prod.fst) scan_sorted
      (fun z hz => Nat.le_of_eq (congrArg Prod.fst (Option.some.inj (hz.symm.trans h)))) (x, e)
      (mem_scan.mpr ⟨Nat.le_trans h1 (Nat.le_of_lt hx1), hx2, hg⟩)) (Nat.not_le_of_lt hx1)

end Aggkit
