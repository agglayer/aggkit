import AggkitModel.Proofs.AOTree
import AggkitModel.Model.TreeHistory
/-
Induction over whole histories (blocks that commit or roll back at any point, restarts, reorgs):
the machine's tables and in-memory object always refine "the leaves of the surviving blocks".
-/
namespace Aggkit
variable {α : Type} [DecidableEq α]

structure HInv (H : HashAlg α) (n : Nat) (s : TM α) (rows : List (Nat × α)) : Prop where
  notx : s.snap = none
  ao : AOInv H n s.t s.db (rows.map (·.2))
  blocks : s.db.roots.map (·.blockNum) = rows.map (·.1)
  mono : (rows.map (·.1)).Pairwise (· ≤ ·)

/-- well-formed input: what the chain and the bridge contract guarantee about a block's deposits -/
def WFop (H : HashAlg α) (n : Nat) (rows : List (Nat × α)) : HiOp α → Prop
  | .restart => True
  | .reorg _ => True
  | .block bn leaves o =>
    (∀ r ∈ rows, r.1 < bn) ∧
    leaves.map (·.1) = List.range' rows.length leaves.length ∧                 -- consecutive deposit counts
    (∀ l ∈ leaves, l.2 ≠ H.zero) ∧                                            -- leaf hashes are keccak outputs
    rows.length + leaves.length ≤ 2^n ∧
    (match o with | .commit => True | .rollbackAfter k _ => k ≤ leaves.length)

def WFhistory (H : HashAlg α) (n : Nat) : List (Nat × α) → List (HiOp α) → Prop
  | _, [] => True
  | rows, op :: ops => WFop H n rows op ∧ WFhistory H n (op.abs rows) ops

section
variable {H : HashAlg α} {n : Nat} {s : TM α} {rows : List (Nat × α)} {d : TreeDb α}

theorem step_begin (h : s.snap = none) : (TM.step H n s .begin).1 = { s with snap := some s.db, cbs := 0 } := by
  simp only [TM.step, h]

theorem step_commit (h : s.snap = some d) : (TM.step H n s .commit).1 = { s with snap := none, cbs := 0 } := by
  simp only [TM.step, h]

theorem step_rollback (h : s.snap = some d) :
    (TM.step H n s .rollback).1 =
      { s with db := d, snap := none, cbs := 0, t := if s.cbs > 0 then { s.t with lastIndex := -2 } else s.t } := by
  simp only [TM.step, h]

theorem step_restart (h : s.snap = none) : (TM.step H n s .restart).1 = { s with t := AOT.new H n } := by
  simp only [TM.step, h]

theorem step_reorg (b : Nat) (h : s.snap = some d) : (TM.step H n s (.reorg b)).1 = { s with db := s.db.reorg b } := by
  simp only [TM.step, h]

theorem step_add_ok {bn bp idx : Nat} {v : α} {t' : AOT α} {db' : TreeDb α} (h : s.snap = some d)
    (ha : addLeaf H n s.t s.db bn bp idx v = (t', .ok db')) :
    TM.step H n s (.add bn bp idx v) = ({ s with t := t', db := db', cbs := s.cbs + 1 }, .ok) := by
  simp only [TM.step, h, TM.doAdd, ha]

theorem addAll_ok (hinj : H.Inj) (bn : Nat) {leaves : List (Nat × α)} {ls : List α} (pos : Nat)
    (hs : s.snap = some d) (inv : AOInv H n s.t s.db ls)
    (hidx : leaves.map (·.1) = List.range' ls.length leaves.length)
    (hnz : ∀ l ∈ leaves, l.2 ≠ H.zero) (hb : ls.length + leaves.length ≤ 2^n)
    (hpos : ∀ r ∈ s.db.roots, r.blockNum < bn ∨ (r.blockNum = bn ∧ r.blockPos < pos)) :
    ∃ s', addAll H n bn s pos leaves = (s', true) ∧ s'.snap = some d ∧
      AOInv H n s'.t s'.db (ls ++ leaves.map (·.2)) ∧ s'.cbs = s.cbs + leaves.length ∧
      s'.db.roots.map (·.blockNum) = s.db.roots.map (·.blockNum) ++ List.replicate leaves.length bn := by
  induction leaves generalizing s ls pos with
  | nil => exact ⟨s, rfl, hs, by rwa [List.map_nil, List.append_nil], rfl, (List.append_nil _).symm⟩
  | cons x rest ih =>
    obtain ⟨idx, v⟩ := x
    rw [List.map_cons, List.length_cons, List.range'_succ, List.cons.injEq] at hidx
    rw [List.length_cons] at hb
    obtain ⟨rfl, hidx⟩ := hidx
    obtain ⟨t', db', hadd, inv', hroots⟩ := addLeaf_ok hinj inv bn pos v (hnz _ List.mem_cons_self)
      (Nat.lt_of_lt_of_le (Nat.lt_add_of_pos_right (Nat.succ_pos _)) hb)
      hpos
    have hlen : (ls ++ [v]).length = ls.length + 1 := List.length_append
    have hb' : (ls ++ [v]).length + rest.length ≤ 2^n := by
      rw [hlen, Nat.add_right_comm]
      exact hb
    obtain ⟨s', hrun, hsnap, hao, hcbs, hblk⟩ := ih (s := { s with t := t', db := db', cbs := s.cbs + 1 }) (pos+1) hs inv'
      (hlen ▸ hidx) (fun l hl => hnz l (List.mem_cons_of_mem _ hl)) hb'
      (hroots ▸ forall_mem_concat.mpr ⟨fun r hr => (hpos r hr).imp_right fun h => ⟨h.1, Nat.lt_succ_of_lt h.2⟩,
        Or.inr ⟨rfl, Nat.lt_succ_self _⟩⟩)
    refine ⟨s', ?_, hsnap, ?_, hcbs.trans ?_, hblk.trans ?_⟩
    · rw [addAll, step_add_ok hs hadd]
      exact hrun
    · rw [List.append_assoc] at hao
      exact hao
    · exact Nat.add_right_comm s.cbs 1 rest.length
    · show db'.roots.map (·.blockNum) ++ _ = _
      rw [hroots, List.map_append, List.append_assoc]
      rfl

/-- on a key-sorted list, keeping the keys below `b` keeps a prefix, whose length only the keys determine -/
theorem filter_lt_eq_take {β : Type} (key : β → Nat) (b : Nat) {l : List β} (hs : (l.map key).Pairwise (· ≤ ·)) :
    l.filter (fun x => key x < b) = l.take ((l.map key).countP (· < b)) := by
  induction l with
  | nil => rfl
  | cons x xs ih =>
    rw [List.map_cons, List.pairwise_cons] at hs
    rw [List.map_cons, List.filter_cons, List.countP_cons]
    by_cases hx : key x < b
    · rw [if_pos (decide_eq_true hx), if_pos (decide_eq_true hx), List.take_succ_cons, ih hs.2]
    · have hxs : ∀ y ∈ xs, ¬ key y < b := fun y hy => by
        have := hs.1 (key y) (List.mem_map_of_mem hy)
        omega
      rw [if_neg (by rwa [decide_eq_true_eq]), if_neg (by rwa [decide_eq_true_eq]), ih hs.2, List.countP_map,
        (List.countP_eq_zero (p := (decide <| · < b) ∘ key)).mpr (fun y hy h => hxs y hy (of_decide_eq_true h))]
      rfl

theorem block_inv (hinj : H.Inj) (inv : HInv H n s rows) {bn : Nat} {leaves : List (Nat × α)} {o : Outcome}
    (wf : WFop H n rows (.block bn leaves o)) :
    HInv H n (HiOp.run H n s (.block bn leaves o)) (HiOp.abs rows (.block bn leaves o)) := by
  obtain ⟨wbn, widx, wnz, wcap, wout⟩ := wf
  have upto : ∀ k, k ≤ leaves.length →
      ∃ s', addAll H n bn (TM.step H n s .begin).1 0 (leaves.take k) = (s', true) ∧ s'.snap = some s.db ∧
        AOInv H n s'.t s'.db (rows.map (·.2) ++ (leaves.take k).map (·.2)) ∧ s'.cbs = k ∧
        s'.db.roots.map (·.blockNum) = rows.map (·.1) ++ List.replicate k bn := by
    intro k hk
    have hlen : (leaves.take k).length = k := List.length_take_of_le hk
    have hcap : (rows.map (·.2)).length + (leaves.take k).length ≤ 2^n := by
      rw [List.length_map, hlen]
      exact Nat.le_trans (Nat.add_le_add_left hk _) wcap
    have hlt : ∀ r ∈ s.db.roots, r.blockNum < bn ∨ (r.blockNum = bn ∧ r.blockPos < 0) := by
      intro r hr
      have : r.blockNum ∈ rows.map (·.1) := inv.blocks ▸ List.mem_map_of_mem hr
      obtain ⟨x, hx, e⟩ := List.mem_map.mp this
      exact Or.inl (e ▸ wbn x hx)
    rw [step_begin inv.notx]
    obtain ⟨s', hrun, hsnap, hao, hcbs, hblk⟩ := addAll_ok hinj bn (s := { s with snap := some s.db, cbs := 0 }) 0 rfl inv.ao
      (by rw [List.map_take, widx, List.take_range'_of_length_ge hk, hlen, List.length_map])
      (fun l hl => wnz l (List.mem_of_mem_take hl)) hcap hlt
    rw [hlen] at hcbs hblk
    exact ⟨s', hrun, hsnap, hao, hcbs.trans (Nat.zero_add k), hblk.trans (congrArg (· ++ _) inv.blocks)⟩
  cases o with
  | commit =>
    obtain ⟨s', hrun, hsnap, hao, _, hblk⟩ := upto leaves.length (Nat.le_refl _)
    rw [List.take_length] at hrun hao
    simp only [HiOp.run, hrun, if_true, HiOp.abs]
    rw [step_commit hsnap]
    refine ⟨rfl, ?_, ?_, ?_⟩
    · rw [List.map_append, List.map_map]
      exact hao
    · rw [hblk, List.map_append, List.map_map]
      exact congrArg _ List.map_const'.symm
    · rw [List.map_append, List.map_map, List.pairwise_append]
      refine ⟨inv.mono, List.pairwise_map.mpr (List.pairwise_of_forall (fun _ _ => Nat.le_refl _)), ?_⟩
      intro a ha b hb
      obtain ⟨x, hx, rfl⟩ := List.mem_map.mp ha
      obtain ⟨y, _, rfl⟩ := List.mem_map.mp hb
      exact Nat.le_of_lt (wbn x hx)
  | rollbackAfter k mid =>
    obtain ⟨s2, hrun, hsnap, hao, hcbs, _⟩ := upto k wout
    simp only [HiOp.run, hrun, HiOp.abs]
    -- if no AddLeaf succeeded, the open transaction still refines `rows`
    have h0 : k = 0 → AOInv H n s2.t s2.db (rows.map (·.2)) := by
      intro hk
      rw [hk, List.take_zero, List.map_nil, List.append_nil] at hao
      exact hao
    -- at the rollback statement at most the store fault has touched the object
    have fin : ∀ t3, (k = 0 → MemOK H n t3 (rows.map (·.2))) →
        HInv H n (TM.step H n { s2 with t := t3 } .rollback).1 rows := by
      intro t3 hm
      rw [step_rollback (s := { s2 with t := t3 }) hsnap]
      refine ⟨rfl, inv.ao.change_t _ ?_, inv.blocks, inv.mono⟩
      show MemOK H n (if s2.cbs > 0 then _ else _) _
      rw [hcbs]
      rcases Nat.eq_zero_or_pos k with rfl | hk
      · rw [if_neg (Nat.lt_irrefl 0)]
        exact hm rfl
      · rw [if_pos hk]
        exact ⟨fun h => by simp at h, Or.inl rfl⟩
    split
    · split
      · rename_i idx v hl
        refine fin _ fun hk => ?_
        rw [hk] at hl
        have hlen : 0 < leaves.length := (List.getElem?_eq_some_iff.mp hl).1
        have : (leaves.map (·.1))[0]? = (List.range' rows.length leaves.length)[0]? := congrArg (·[0]?) widx
        rw [List.getElem?_map, hl, List.getElem?_range' hlen] at this
        obtain rfl : idx = (rows.map (·.2)).length := (Option.some.inj this).trans (List.length_map _).symm
        exact addLeafStoreFault_memOK hinj (h0 hk) v
      · exact fin s2.t fun hk => (h0 hk).memOK
    · exact fin s2.t fun hk => (h0 hk).memOK

theorem HiOp.run_inv (hinj : H.Inj) (inv : HInv H n s rows) {op : HiOp α} (wf : WFop H n rows op) :
    HInv H n (op.run H n s) (op.abs rows) := by
  cases op with
  | restart =>
    simp only [HiOp.run]
    rw [step_restart inv.notx]
    exact ⟨inv.notx, inv.ao.change_t _ ⟨fun h => by simp [AOT.new] at h, Or.inl rfl⟩, inv.blocks, inv.mono⟩
  | reorg b =>
    -- the rows of blocks `< b` are a prefix of the root table and of `rows`, of the same length
    simp only [HiOp.run, HiOp.abs]
    rw [step_begin inv.notx, step_reorg (d := s.db) b rfl, step_commit (d := s.db) rfl]
    have hroots := filter_lt_eq_take (fun r : RootRow α => r.blockNum) b (inv.blocks ▸ inv.mono)
    rw [inv.blocks] at hroots
    simp only [TreeDb.reorg, hroots, filter_lt_eq_take (fun r : Nat × α => r.1) b inv.mono]
    refine ⟨rfl, ?_, ?_, ?_⟩
    · rw [List.map_take]
      exact inv.ao.take _
    · simp only [List.map_take, inv.blocks]
    · rw [List.map_take]
      exact inv.mono.sublist (List.take_sublist _ _)
  | block bn leaves o => exact block_inv hinj inv wf

end

theorem runHistory_inv (H : HashAlg α) (hinj : H.Inj) (n : Nat) :
    ∀ (ops : List (HiOp α)) (s : TM α) (rows : List (Nat × α)),
      HInv H n s rows → WFhistory H n rows ops →
      HInv H n (runHistory H n s ops) (absHistory rows ops) := by
  intro ops
  induction ops with
  | nil => exact fun _ _ inv _ => inv
  | cons op ops ih => exact fun s rows inv wf => ih _ _ (HiOp.run_inv hinj inv wf.1) wf.2

theorem init_inv (H : HashAlg α) (n : Nat) : HInv H n (TM.init H n) [] :=
  ⟨rfl,
    ⟨fun _ h => (nomatch h), fun _ hm _ _ _ ⟨p, hp, _⟩ => (Nat.not_lt_zero p (Nat.le_zero.mp hm ▸ hp)).elim,
      ⟨rfl, fun _ hi => (Nat.not_lt_zero _ hi).elim⟩, List.Pairwise.nil,
      fun h => ((by decide : ¬ (-2 : Int) + 1 = 0) h).elim, Or.inl rfl,
      fun _ h => (nomatch h), Nat.zero_le _⟩,
    rfl, List.Pairwise.nil⟩

theorem history_ao {H : HashAlg α} (hinj : H.Inj) {n : Nat} {ops : List (HiOp α)} (wf : WFhistory H n [] ops) :
    AOInv H n (runHistory H n (TM.init H n) ops).t (runHistory H n (TM.init H n) ops).db
      ((absHistory [] ops).map (·.2)) :=
  (runHistory_inv H hinj n ops (TM.init H n) [] (init_inv H n) wf).ao

end Aggkit
