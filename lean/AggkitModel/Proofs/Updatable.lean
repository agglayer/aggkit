import AggkitModel.Proofs.Merkle
/-
The updatable tree (rollup exit tree) over a run of upserts. `upsertLeaf_spec` says what one successful `UpsertLeaf` does
to the tables in terms of the specification; `UInv` (the store holds the current version, whose root is the last root row,
and no row's (block, position) key exceeds `k`) is what makes it apply again; `runUps_spec` carries it along a whole run.
Earlier versions need no place in the invariant: what the node table holds it keeps (`closed_mono`).
-/
namespace Aggkit
variable {α : Type} [DecidableEq α]

theorem upsertLeaf_spec {H : HashAlg α} (hinj : H.Inj) {n : Nat} {db : TreeDb α} {f : Nat → α} {W : Nat → Prop}
    (hcons : Consistent H db.rht) (hcl : Closed H n db.rht f W) (hzo : ZeroOutside H f W)
    (hroot : lastRootHash H n db = tn H f n 0)
    {bn bp i : Nat} {v : α} (hi : i < 2^n) {root : α} {db' : TreeDb α}
    (hup : upsertLeaf H n db bn bp i v = .ok (root, db')) :
    root = tn H (updateFn f i v) n 0 ∧
    db' = { roots := db.roots ++ [{ hash := root, index := i, blockNum := bn, blockPos := bp }],
            rht := storeNodes db.rht (pathNodes H n (updateFn f i v) i) } := by
  have hloop := upsertLoop_spec H (updateFn f i v) i n 0 []
  -- the siblings read are those of the old version, which are also those of the new one (`sibT_update`)
  rw [Nat.pow_zero, Nat.div_one, tn_zero, Nat.zero_add, List.nil_append, Nat.div_eq_of_lt hi,
    show updateFn f i v i = v from if_pos rfl, List.map_congr_left (fun h _ => sibT_update H f i h v),
    ← List.range_eq_range', ← getSiblings_spec H hinj n db.rht f W hcons hcl hzo i hi, ← hroot] at hloop
  revert hup
  fun_cases upsertLeaf H n db bn bp i v <;> intro hup
  case case2 rootHash sibs r nodes hl dbr hsr =>
    cases hl.symm.trans hloop
    cases hup
    rw [storeRoot_ok hsr, List.range_eq_range']
    exact ⟨rfl, rfl⟩
  all_goals cases hup

structure Ups (α : Type) where
  bn : Nat
  bp : Nat
  pos : Nat
  val : α

/-- run the upserts in order, collecting the roots returned; `none` as soon as one fails (duplicate root hash: a tree
    state that recurs — excluded on the real chain, see C11) -/
def runUps (H : HashAlg α) (n : Nat) : TreeDb α → List (Ups α) → Option (TreeDb α × List α)
  | db, [] => some (db, [])
  | db, u :: rest =>
    match upsertLeaf H n db u.bn u.bp u.pos u.val with
    | .ok (r, db') => (runUps H n db' rest).map (fun x => (x.1, r :: x.2))
    | .error _ => none

/-- the successive versions (leaf function, written positions) produced by a list of upserts -/
def versions (f : Nat → α) (W : Nat → Prop) : List (Ups α) → List ((Nat → α) × (Nat → Prop))
  | [] => []
  | u :: rest => (updateFn f u.pos u.val, fun p => W p ∨ p = u.pos) :: versions (updateFn f u.pos u.val) (fun p => W p ∨ p = u.pos) rest

/-- (block, position) keys strictly increasing along the list and above the given key -/
def KeysInc : Nat × Nat → List (Ups α) → Prop
  | _, [] => True
  | k, u :: rest => (u.bn > k.1 ∨ (u.bn = k.1 ∧ u.bp > k.2)) ∧ KeysInc (u.bn, u.bp) rest

def finalF (f : Nat → α) (us : List (Ups α)) : Nat → α := us.foldl (fun g u => updateFn g u.pos u.val) f
def finalW (W : Nat → Prop) (us : List (Ups α)) : Nat → Prop := us.foldl (fun V u => fun p => V p ∨ p = u.pos) W
def finalK (k : Nat × Nat) (us : List (Ups α)) : Nat × Nat := us.foldl (fun _ u => (u.bn, u.bp)) k

structure UInv (H : HashAlg α) (n : Nat) (db : TreeDb α) (f : Nat → α) (W : Nat → Prop) (k : Nat × Nat) : Prop where
  cons : Consistent H db.rht
  last : lastRootHash H n db = tn H f n 0
  zo : ZeroOutside H f W
  cur : Closed H n db.rht f W
  keys : ∀ r ∈ db.roots, r.blockNum < k.1 ∨ (r.blockNum = k.1 ∧ r.blockPos ≤ k.2)

section
variable {H : HashAlg α} {n : Nat} {db db' : TreeDb α} {f : Nat → α} {W : Nat → Prop} {k : Nat × Nat}
  {us : List (Ups α)} {roots : List α}

theorem UInv.empty (H : HashAlg α) (n : Nat) : UInv H n ({} : TreeDb α) (fun _ => H.zero) (fun _ => False) (0, 0) :=
  ⟨fun _ h => (nomatch h), (tn_zero_of H _ n 0 (fun _ _ => rfl)).symm, fun _ _ => rfl,
    fun _ _ _ ⟨_, hp, _⟩ => hp.elim, fun _ h => (nomatch h)⟩

/-- (block, position) keys, ordered lexicographically: `≤` then `<` gives `<` -/
theorem key_lt {a b c d e g : Nat} (h1 : a < c ∨ (a = c ∧ b ≤ d)) (h2 : e > c ∨ (e = c ∧ g > d)) :
    a < e ∨ (a = e ∧ b < g) := by
  rcases h2 with h2 | ⟨rfl, h2⟩
  · exact Or.inl (h1.elim (fun h => Nat.lt_trans h h2) (fun h => h.1 ▸ h2))
  · exact h1.imp_right (fun h => ⟨h.1, Nat.lt_of_le_of_lt h.2 h2⟩)

theorem runUps_cons {u : Ups α} :
    runUps H n db (u :: us) = some (db', roots) ↔
      ∃ r db1 rs, upsertLeaf H n db u.bn u.bp u.pos u.val = .ok (r, db1) ∧ runUps H n db1 us = some (db', rs) ∧
        roots = r :: rs := by
  rw [runUps]
  cases upsertLeaf H n db u.bn u.bp u.pos u.val with
  | error e => exact ⟨fun h => (nomatch h), fun ⟨_, _, _, h, _⟩ => (nomatch h)⟩
  | ok res =>
    rw [Option.map_eq_some_iff]
    constructor
    · rintro ⟨⟨d, rs⟩, h, e⟩
      cases e
      exact ⟨_, _, rs, rfl, h, rfl⟩
    · rintro ⟨r, db1, rs, e, h, rfl⟩
      cases e
      exact ⟨(db', rs), h, rfl⟩

theorem runUps_append {us1 us2 : List (Ups α)} (h : runUps H n db (us1 ++ us2) = some (db', roots)) :
    ∃ db1 r1 r2, runUps H n db us1 = some (db1, r1) ∧ runUps H n db1 us2 = some (db', r2) ∧ roots = r1 ++ r2 := by
  induction us1 generalizing db roots with
  | nil => exact ⟨db, [], roots, rfl, h, rfl⟩
  | cons u rest ih =>
    rw [List.cons_append, runUps_cons] at h
    obtain ⟨r, dbx, rs, hup, hrun, rfl⟩ := h
    obtain ⟨db1, r1, r2, a, b, rfl⟩ := ih hrun
    exact ⟨db1, r :: r1, r2, runUps_cons.mpr ⟨r, dbx, r1, hup, a, rfl⟩, b, rfl⟩

theorem runUps_spec (hinj : H.Inj) (inv : UInv H n db f W k) (hk : KeysInc k us) (hpos : ∀ u ∈ us, u.pos < 2^n)
    (hrun : runUps H n db us = some (db', roots)) :
    UInv H n db' (finalF f us) (finalW W us) (finalK k us) ∧
    roots = (versions f W us).map (fun v => tn H v.1 n 0) ∧
    db'.roots = db.roots ++ (us.zip roots).map (fun x => ⟨x.2, x.1.pos, x.1.bn, x.1.bp⟩) ∧
    (∀ g V, Closed H n db.rht g V → Closed H n db'.rht g V) ∧
    ∀ v ∈ versions f W us, Closed H n db'.rht v.1 v.2 ∧ ZeroOutside H v.1 v.2 := by
  induction us generalizing db f W k roots with
  | nil =>
    obtain ⟨rfl, rfl⟩ := Prod.mk.inj (Option.some.inj hrun)
    exact ⟨inv, rfl, (List.append_nil _).symm, fun _ _ h => h, fun _ h => (nomatch h)⟩
  | cons u rest ih =>
    obtain ⟨r, db1, rs, hup, hrest, rfl⟩ := runUps_cons.mp hrun
    obtain ⟨rfl, hdb⟩ := upsertLeaf_spec hinj inv.cons inv.cur inv.zo inv.last (hpos u List.mem_cons_self) hup
    have inv1 : UInv H n db1 (updateFn f u.pos u.val) (fun p => W p ∨ p = u.pos) (u.bn, u.bp) := by
      rw [hdb]
      refine ⟨storeNodes_consistent inv.cons (pathNodes_consistent H n _ _), ?_, zeroOutside_update inv.zo _ _,
        closed_update _ _ inv.cur, ?_⟩
      · -- the new row is the last one
        rw [lastRootHash, getLastRoot_concat _ db.roots _ rfl]
        exact fun x hx => RootRow.after_iff.mpr (key_lt (inv.keys x hx) hk.1)
      · exact forall_mem_concat.mpr ⟨fun x hx => (key_lt (inv.keys x hx) hk.1).imp_right fun h => ⟨h.1, Nat.le_of_lt h.2⟩,
          Or.inr ⟨rfl, Nat.le_refl _⟩⟩
    obtain ⟨hinv, hroots, hrows, hmono, hvers⟩ := ih inv1 hk.2 (fun x hx => hpos x (List.mem_cons_of_mem _ hx)) hrest
    subst hdb
    refine ⟨hinv, ?_, ?_, fun g V h => hmono g V (closed_mono h), ?_⟩
    · rw [hroots]
      rfl
    · rw [hrows, List.append_assoc]
      rfl
    · intro v hv
      rcases List.mem_cons.mp hv with rfl | hv
      · exact ⟨hmono _ _ inv1.cur, inv1.zo⟩
      · exact hvers v hv

end

end Aggkit
