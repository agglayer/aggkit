import AggkitModel.Proofs.TreeHistory
import AggkitModel.Proofs.Contract
/-
C01 — the synced exit-tree root equals the bridge contract's root at every deposit.
Node side: the tree machine driven by arbitrary well-formed histories (blocks, rollbacks at any point,
restarts, reorgs). Contract side: `DC` (the deposit contract's incremental tree). Both equal the
specification root of the surviving leaves, for every deposit count and every carry pattern.
(The leaf-value half of C01 — byte layout of `Bridge.Hash` — is a correspondence/monitor obligation of
the `bridgestore` scenario; see DESIGN.)
-/
namespace Aggkit
variable {α : Type} [DecidableEq α]

/-- **C01 (roots)**: after ANY well-formed history, the root the node reports for deposit count `i`
    is the root the contract holds after its `(i+1)`-th deposit (of the surviving chain). -/
theorem C01_root (H : HashAlg α) (hinj : H.Inj) (n : Nat) (ops : List (HiOp α))
    (wf : WFhistory H n [] ops) (s : TM α) (ls : List α)
    (hs : s = runHistory H n (TM.init H n) ops) (hls : ls = (absHistory [] ops).map (·.2)) :
    ∀ i, i < ls.length → i + 1 < 2^n →
      ∃ r, getRootByIndex s.db i = some r ∧
        r.hash = DC.getRoot H n (DC.depositAll H n (DC.empty H n) (ls.take (i+1))) := by
  subst hs hls
  intro i hi hb
  obtain ⟨r, h1, h2, _⟩ := getRootByIndex_spec (history_ao hinj wf).roots hi
  have hlen : ((List.map (·.2) (absHistory [] ops)).take (i + 1)).length < 2^n :=
    Nat.lt_of_le_of_lt (List.length_take_le _ _) hb
  exact ⟨r, h1, by rw [h2, vroot_eq_specRoot, contract_root H n _ hlen]⟩

/-- the reported roots depend only on the surviving deposits, not on how they were spread over
    blocks, on rolled-back attempts, on restarts or on reorged-away forks -/
theorem C01_partition_irrelevant (H : HashAlg α) (hinj : H.Inj) (n : Nat) (ops1 ops2 : List (HiOp α))
    (wf1 : WFhistory H n [] ops1) (wf2 : WFhistory H n [] ops2)
    (hsame : (absHistory [] ops1).map (·.2) = (absHistory [] ops2).map (·.2)) :
    ∀ i, i < ((absHistory [] ops1).map (·.2)).length →
      (getRootByIndex (runHistory H n (TM.init H n) ops1).db i).map (·.hash) =
      (getRootByIndex (runHistory H n (TM.init H n) ops2).db i).map (·.hash) := by
  intro i hi
  obtain ⟨r1, a1, a2, _⟩ := getRootByIndex_spec (history_ao hinj wf1).roots hi
  obtain ⟨r2, b1, b2, _⟩ := getRootByIndex_spec (history_ao hinj wf2).roots (hsame ▸ hi)
  rw [a1, b1, Option.map_some, Option.map_some, a2, b2, hsame]

/-- a deposit-count gap is rejected with `invalidIndex` — whenever the in-memory index is not itself
    stale in exactly the wrong way. Excluded point (stated, replayed on the real code in the `tree`
    scenario's malformed stream): right after a reorg that removed leaves, `lastIndex` is still the
    pre-reorg value and an AddLeaf at exactly `lastIndex+1` is accepted without consulting the tables.
    No listed property quantifies over such inputs (the chain emits consecutive counts). -/
theorem C01_gap_rejected_partial (H : HashAlg α) (hinj : H.Inj) (n : Nat) (t : AOT α) (db : TreeDb α) (ls : List α)
    (inv : AOInv H n t db ls) (bn bp idx : Nat) (v : α) (hne : idx ≠ ls.length)
    (hfresh : ((idx : Nat) : Int) ≠ t.lastIndex + 1 ∨ t.lastIndex + 1 = ls.length) :
    (addLeaf H n t db bn bp idx v).2 = .error .invalidIndex := by
  obtain ⟨t1, h1, h2, _⟩ := addLeaf_pre hinj inv idx hfresh
  rw [addLeaf]
  simp only [h1]
  rw [if_pos (by omega)]

end Aggkit
