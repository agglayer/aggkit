import AggkitModel.Proofs.Aggsender
import AggkitModel.Generated.CertFacts
/-
C02 — bridge exits settle exactly once through a gap-free certificate chain.
Quantifiers: every configuration (retry-immediately or retry-at-epoch, any start block, any size limit, PP or
aggchain-prover flow, Agglayer headers with or without the previous exit root), any size function, every operation
sequence of any length that `opsOK` (Proofs/Aggsender.lean) admits: L2 blocks, epoch ticks, status ticks, Agglayer
moves, failing Agglayer calls, scripted prover answers, switches of the optimistic-mode flag, epoch ticks during which
the certificate table or the L1 info tree cannot be read, crashes with and without a submission in flight, loss of the
database, restarts. Left out: `forge`, a record of a certificate the Agglayer has never seen.
-/
namespace Aggkit.Aggsender
open Aggkit.CertRange

/-- what C02 says about a state: only the most recent certificate can be undecided; every certificate the Agglayer
    ever received has the height of the last settled one before it plus one (0 at the start), starts from that
    certificate's new exit root and from the block after its last block; and it carries exactly the bridge exits and
    claims of its block range, in chain order -/
structure ChainOK (s : Sys) : Prop where
  onlyLastOpen : ∀ i (h : i < s.agg.length), i + 1 < s.agg.length → (s.agg[i]).status.isOpen = false
  position : ∀ i (h : i < s.agg.length),
    ((s.agg[i]).height, (s.agg[i]).prev, (s.agg[i]).from_) = expect s.cfg (s.agg.take i) ∧ (s.agg[i]).from_ ≤ (s.agg[i]).to_
  content : ∀ c ∈ s.agg, c.to_ ≤ lastProcessed s.l2 ∧ c.bridges = bridgesIn s.l2 c.from_ c.to_ ∧
    c.claims = claimsIn s.l2 c.from_ c.to_
  l2sorted : s.l2.Pairwise (fun a b => a.num < b.num)
  roots : ∀ c ∈ s.agg, c.prev = cnt s.l2 (c.from_ - 1) ∧ c.new = cnt s.l2 c.to_
  depositIds : ∀ t, (bridgesIn s.l2 0 t).map (·.id) = List.range (cnt s.l2 t)

/-- the full statement, parametrised by the admissible configurations -/
def C02_Statement (admissible : Cfg → Prop) : Prop :=
  ∀ (size : Params → Nat) (cfg : Cfg) (ops : List Op), admissible cfg → opsOK size { cfg := cfg } ops = true →
    ChainOK (run size { cfg := cfg } ops)

/-- **C02**, for every configuration — including Agglayers whose certificate headers carry no previous local exit root
    (`omitPrev`): a record rebuilt from such a header has none, and the node then falls back to the settled record one
    height below, which by `settled_unique` is the last settled certificate. -/
theorem C02_chain : C02_Statement (fun _ => True) := by
  intro size cfg ops _ hops
  have hi := run_inv size ops { cfg := cfg } (init_inv cfg) hops
  generalize run size { cfg := cfg } ops = s at hi
  exact ⟨hi.closedPrefix, hi.chain, fun c hc => ⟨(hi.content c hc).1, (hi.content c hc).2.1, (hi.content c hc).2.2.1⟩,
    hi.l2sorted, hi.counts, bridgesIn_prefix_ids hi.l2sorted hi.deposits⟩

/-- no certificate is submitted while an earlier one is undecided: whenever a later certificate exists, the earlier
    one is settled or in error -/
theorem C02_no_overlap (s : Sys) (h : ChainOK s) (i j : Nat) (hij : i < j) (hj : j < s.agg.length) :
    (s.agg[i]'(by omega)).status.isOpen = false :=
  h.onlyLastOpen i (by omega) (by omega)

/-- a replacement for a certificate in error reuses its height, its previous exit root and its first block -/
theorem C02_replacement (s : Sys) (h : ChainOK s) (i : Nat) (hi : i + 1 < s.agg.length)
    (herr : (s.agg[i]'(by omega)).status = .inError) :
    (s.agg[i+1]).height = (s.agg[i]'(by omega)).height ∧ (s.agg[i+1]).prev = (s.agg[i]'(by omega)).prev ∧
    (s.agg[i+1]).from_ = (s.agg[i]'(by omega)).from_ := by
  have h1 := (h.position (i+1) hi).1
  have h0 := (h.position i (by omega)).1
  rw [List.take_succ_eq_append_getElem (by omega), expect_snoc_not (by rw [herr]; simp), ← h0] at h1
  simp only [Prod.mk.injEq] at h1
  exact h1

/-- the certificate after a settled one has the next height, starts from its new exit root and from the block after
    its last block -/
theorem C02_after_settled (s : Sys) (h : ChainOK s) (i : Nat) (hi : i + 1 < s.agg.length)
    (hset : (s.agg[i]'(by omega)).status = .settled) :
    (s.agg[i+1]).height = (s.agg[i]'(by omega)).height + 1 ∧ (s.agg[i+1]).prev = (s.agg[i]'(by omega)).new ∧
    (s.agg[i+1]).from_ = (s.agg[i]'(by omega)).to_ + 1 := by
  have h1 := (h.position (i+1) hi).1
  rw [List.take_succ_eq_append_getElem (by omega), expect_snoc_settled hset] at h1
  simp only [Prod.mk.injEq] at h1
  exact h1

/-- **exactly once, in chain order**: the bridge exits (and, separately, the claims) of all settled certificates,
    read in height order, are exactly the bridge events (claims) of the blocks from the first block up to the last
    block of the last settled certificate -/
theorem C02_exactly_once (s : Sys) (h : ChainOK s) :
    (s.agg.filter (·.status = .settled)).flatMap (·.bridges) =
      bridgesIn s.l2 (s.cfg.start + 1) ((expect s.cfg s.agg).2.2 - 1) ∧
    (s.agg.filter (·.status = .settled)).flatMap (·.claims) =
      claimsIn s.l2 (s.cfg.start + 1) ((expect s.cfg s.agg).2.2 - 1) :=
  ⟨(settled_prefix_exact (·.bridges) (·.bridges) s.cfg s.l2 s.agg h.position h.l2sorted
      (fun c hc => (h.content c hc).2.1)).2,
    (settled_prefix_exact (·.claims) (·.claims) s.cfg s.l2 s.agg h.position h.l2sorted
      (fun c hc => (h.content c hc).2.2)).2⟩

/-- the settled certificates have heights 0, 1, 2, … in submission order (one per height, no gap) -/
theorem C02_settled_heights (s : Sys) (h : ChainOK s) :
    (s.agg.filter (·.status = .settled)).map (·.height) = List.range (s.agg.filter (·.status = .settled)).length :=
  (settled_heights s.cfg s.agg h.position).2

/-! ### non-vacuity: a concrete history with an in-error certificate, its replacement, a crash between submission and
    record, a restart, and two settled certificates -/

def demoOps : List Op :=
  [ .restart,
    .l2blk ⟨1, [⟨1, 0, 0⟩, ⟨1, 3, 1⟩], [⟨1, 0, 0⟩]⟩,
    .epoch false, .move 1 .inError, .l2blk ⟨2, [⟨2, 0, 2⟩], []⟩, .epoch true, .restart,
    .move 2 .settled, .status false, .l2blk ⟨4, [], [⟨4, 5, 1⟩]⟩, .epoch false, .move 3 .settled, .status false ]

example : opsOK sizeExact {} demoOps = true := by decide

example : ((run sizeExact {} demoOps).agg.map (fun c => [c.id, c.height, c.from_, c.to_, c.prev, c.new])) =
    [[1, 0, 1, 1, 0, 2], [2, 0, 1, 2, 0, 3], [3, 1, 3, 4, 3, 3]] ∧
    (run sizeExact {} demoOps).agg.map (·.status) = [St.inError, St.settled, St.settled] := by decide

/-! ### the code points this model rests on (regenerated from /repo on every run by tools/goextract) -/

/-- the send loop polls the pending certificates before it may send, in both arms; `sendCertificate` builds, then submits,
    then records; what it records comes from the submitted certificate and its build parameters; the open statuses are
    Pending, Proven, Candidate -/
theorem C02_code_facts :
    Gen.CertFacts.statusOrder = ["Pending", "Proven", "Candidate", "InError", "Settled"] ∧
    (Gen.CertFacts.nonSettledStatuses.length = 3 ∧ "Pending" ∈ Gen.CertFacts.nonSettledStatuses ∧
      "Proven" ∈ Gen.CertFacts.nonSettledStatuses ∧ "Candidate" ∈ Gen.CertFacts.nonSettledStatuses) ∧
    Gen.CertFacts.closedStatuses.length = 2 ∧
    Gen.CertFacts.loopSteps = ["CheckPendingCertificatesStatus", "sendCertificate", "CheckPendingCertificatesStatus", "sendCertificate"] ∧
    Gen.CertFacts.sendSteps = ["GetCertificateBuildParams", "BuildCertificate", "SendCertificate", "saveNonAcceptedCert",
      "saveCertificateToStorage"] ∧
    (∀ f ∈ ["Height=certificate.Height", "CertificateID=certificateHash", "NewLocalExitRoot=certificate.NewLocalExitRoot",
        "PreviousLocalExitRoot=&prevLER", "FromBlock=certificateParams.FromBlock", "ToBlock=certificateParams.ToBlock",
        "RetryCount=certificateParams.RetryCount"], f ∈ Gen.CertFacts.storedHeaderFields) :=
  ⟨rfl, by simp [Gen.CertFacts.nonSettledStatuses], rfl, rfl, rfl, by simp [Gen.CertFacts.storedHeaderFields]⟩

end Aggkit.Aggsender
