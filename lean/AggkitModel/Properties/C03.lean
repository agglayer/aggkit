import AggkitModel.Model.Certificate
import AggkitModel.Proofs.Bytes
import AggkitModel.Properties.C02
import AggkitModel.Generated.CertFacts
import AggkitModel.Generated.SyncFacts
/-
C03 — a built certificate's new exit root follows from its bridge exits (byte level; the protocol-level half —
which exits, which roots — is `C03_root` over the certificate machine, below).
-/
namespace Aggkit.Certificate
open Aggkit

def KLen (K : Bytes → Bytes) : Prop := ∀ m, (K m).length = 32

theorem convertMeta_cons (K : Bytes → Bytes) (x : Nat) (m : Bytes) : convertMeta K (x :: m) = K (x :: m) :=
  if_pos (Nat.succ_pos _)

/-- **the exit the node puts into a certificate hashes, on the Agglayer's side, to exactly the leaf that the bridge
    event has in the L2 exit tree** — for every field value, empty and non-empty metadata alike -/
theorem C03_exit_leaf (K : Bytes → Bytes) (hK : KLen K) (b : BridgeEv) : exitHash K (toExit K b) = leafHash K b := by
  unfold exitHash leafHash toExit
  cases b.metadata with
  | nil => rfl
  | cons x m => rw [convertMeta_cons, if_neg (hK _ ▸ by decide)]

/-- the exits are the events' fields, unchanged (metadata replaced by its hash, or dropped when empty) -/
theorem C03_exit_fields (K : Bytes → Bytes) (b : BridgeEv) :
    (toExit K b).leafType = b.leafType ∧ (toExit K b).origNet = b.origNet ∧ (toExit K b).origAddr = b.origAddr ∧
    (toExit K b).destNet = b.destNet ∧ (toExit K b).destAddr = b.destAddr ∧ (toExit K b).amount = b.amount ∧
    (toExit K b).metadata = (if b.metadata = [] then [] else K b.metadata) := by
  refine ⟨rfl, rfl, rfl, rfl, rfl, rfl, ?_⟩
  unfold toExit
  cases b.metadata with
  | nil => rfl
  | cons x m => exact convertMeta_cons K x m

theorem bytesToHash_32 {m : Bytes} (h : m.length = 32) : bytesToHash m = m := by
  rw [bytesToHash, if_neg (Nat.not_lt.mpr (Nat.le_of_eq h)), h]
  rfl

/-- **the leaf recomputed from the wire message equals the leaf the node hashed**: nothing covered by the exit hash is
    lost or altered by the conversion to the submission message -/
theorem C03_wire_leaf (K : Bytes → Bytes) (e : Exit) (h : e.metadata.length = 0 ∨ e.metadata.length = 32) :
    wireHash K (toWire e) = exitHash K e := by
  unfold wireHash toWire exitHash
  rcases h with h | h
  · simp only [h, Nat.lt_irrefl, if_false, if_true, gt_iff_lt]
  · simp only [h, bytesToHash_32 h, gt_iff_lt, Nat.zero_lt_succ, if_true, Nat.reduceEqDiff, if_false]

/-- exits produced by the node satisfy the width condition of `C03_wire_leaf` -/
theorem toExit_meta_len (K : Bytes → Bytes) (hK : KLen K) (b : BridgeEv) :
    (toExit K b).metadata.length = 0 ∨ (toExit K b).metadata.length = 32 := by
  unfold toExit
  cases b.metadata with
  | nil => exact .inl rfl
  | cons x m => exact .inr (hK _)

/-- **the metadata of a certificate built for blocks `[f, t]` decodes to that range** (and to its creation time and
    type), provided the range is narrower than 2^32 blocks — the code truncates `uint32(ToBlock-FromBlock)` -/
theorem C03_metadata_roundtrip (f t cr ty : Nat) (hf : f < 2^64) (hft : f ≤ t) (hw : t - f < 2^32) (hcr : cr < 2^32)
    (hty : ty < 256) :
    ∃ m, metaFromHash (metaOfRange f t cr ty) = some m ∧ rangeOfMeta m = (f, t) ∧ m.createdAt = cr ∧ m.certType = ty ∧
      m.version = 2 := by
  refine ⟨{ version := 2, fromBlock := f, offset := t - f, createdAt := cr, certType := ty }, ?_,
    congrArg (Prod.mk f) (Nat.add_sub_cancel' hft), rfl, rfl, rfl⟩
  rw [metaOfRange, metaToHash, Nat.mod_eq_of_lt hw, Nat.mod_eq_of_lt hty]
  -- the decoder's offsets 1, 9, 13, 17 are the cumulative widths 1, 8, 4, 4 of the encoder's chunks
  simp only [metaFromHash, List.append_assoc, List.cons_append, List.nil_append, List.head?_cons, List.drop_succ_cons,
    drop_append_of_length_le, List.take_left', fillBE_length, Nat.le_refl, Nat.reduceLeDiff, Nat.reduceSub, List.drop_zero,
    List.headD_cons, ofBE_fillBE_of_lt (k := 8) hf, ofBE_fillBE_of_lt (k := 4) hw, ofBE_fillBE_of_lt (k := 4) hcr]

end Aggkit.Certificate

namespace Aggkit.Aggsender
open Aggkit.CertRange

/-- **C03, protocol level** (exit roots as leaf counts of the L2 exit tree; see `Model/Aggsender.lean`): for every
    certificate the Agglayer ever received, in every reachable state, the bridge exits are exactly the bridge events
    of its block range in chain order, their deposit counts are `prev, prev+1, …` — the leaves that follow the tree its
    previous exit root commits to — and its new exit root is the root after appending exactly these leaves. Together
    with `C03_exit_leaf` (each exit hashes to its event's leaf) and C01 (the stored root after `n` leaves is the
    Merkle root of the first `n` leaves) this is the hash-level statement. -/
theorem C03_root (s : Sys) (h : ChainOK s) (c : ACert) (hc : c ∈ s.agg) :
    c.bridges = bridgesIn s.l2 c.from_ c.to_ ∧ c.claims = claimsIn s.l2 c.from_ c.to_ ∧
    c.bridges.map (·.id) = List.range' c.prev c.bridges.length ∧ c.new = c.prev + c.bridges.length := by
  obtain ⟨_, hb, hcl⟩ := h.content c hc
  obtain ⟨hp, hn⟩ := h.roots c hc
  obtain ⟨i, hi, rfl⟩ := List.getElem_of_mem hc
  have hpos := h.position i hi
  have h1 := expect_from_pos s.cfg (s.agg.take i)
  rw [← hpos.1] at h1
  obtain ⟨e1, e2⟩ := bridgesIn_ids h.l2sorted h.depositIds _ _ h1 (Nat.le_succ_of_le hpos.2)
  exact ⟨hb, hcl, by rw [hb, hp]; exact e1, by rw [hn, e2, hp, hb]⟩

/-- the start exit root the node falls back to is the root of the empty 32-level tree (the constant is compared with the
    independently computed root table by the harness; here: it is the value the model's `prev = 0` stands for) -/
theorem C03_code_facts :
    Gen.CertFacts.emptyLER = "0x27ae5ba08d7291c96c8cbddcc148bf48a6d68c7974b94356f53754ef6171d757" := rfl

/-- what "the certificate carries exactly the events of its block range" takes from the bridge store's read path
    (regenerated from the source on every run): no store function walks a result set without asking whether the walk ended
    on an error (a read that failed half way would otherwise pass for a complete, shorter answer), and the range reads of
    bridges and claims run inside the transaction that checked that the range is processed (one snapshot) -/
theorem C03_read_path_code_facts :
    Gen.SyncFacts.rowLoopsWithoutErrCheck = [] ∧
    Gen.SyncFacts.rangeQueryQuerier = ["GetBridges:tx", "GetClaims:tx"] := ⟨rfl, rfl⟩

end Aggkit.Aggsender
