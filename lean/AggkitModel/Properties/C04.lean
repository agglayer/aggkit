import AggkitModel.Proofs.BridgeStore
import AggkitModel.Properties.C01
import AggkitModel.Proofs.Updatable
import AggkitModel.Generated.Schema
import AggkitModel.Generated.SyncFacts
set_option linter.unusedSectionVars false
/-
C04 — a reorg leaves the node exactly as if the dropped blocks had never been seen.
Tree half: `runHistory_inv` makes every tree query (roots by index / hash, proofs, leaves) a function of the
surviving leaves only; reorged-away forks, their rolled-back attempts and restarts leave no trace.
Table half (bridge store model): the cascade keeps exactly the rows of the surviving blocks.
Updatable-tree half: `C04_updatable_reorg` (over `runUps`, Proofs/Updatable). Regenerated facts: `C04_schema_cascades`,
`C04_tx_code_facts`.
Known gap (recorded finding F3, witness below): `RemoveLegacyToken` deletes rows of EARLIER blocks; reorging
the removing block does not bring them back — the full statement is false for histories with such events.
-/
namespace Aggkit.C04
open Aggkit Aggkit.BridgeStore

variable {α : Type} [DecidableEq α]

/-- **tree queries after a reorg = tree queries of a node that never saw the dropped blocks**:
    two well-formed histories with the same surviving leaves serve the same root for every deposit count
    (C01_partition_irrelevant), and `C08_appendonly` gives the same leaves and verifying proofs under those roots. -/
theorem C04_tree_roots (H : HashAlg α) (hinj : H.Inj) (n : Nat) (ops : List (HiOp α)) (b : Nat) (ops' fresh : List (HiOp α))
    (wf1 : WFhistory H n [] (ops ++ [.reorg b] ++ ops')) (wf2 : WFhistory H n [] fresh)
    (hsame : (absHistory [] (ops ++ [.reorg b] ++ ops')).map (·.2) = (absHistory [] fresh).map (·.2)) :
    ∀ i, i < ((absHistory [] fresh).map (·.2)).length →
      (getRootByIndex (runHistory H n (TM.init H n) (ops ++ [.reorg b] ++ ops')).db i).map (·.hash) =
      (getRootByIndex (runHistory H n (TM.init H n) fresh).db i).map (·.hash) := by
  intro i hi
  exact C01_partition_irrelevant H hinj n _ _ wf1 wf2 hsame i (by rw [hsame]; exact hi)

/-- the abstract effect of a reorg on a history is exactly "drop the blocks ≥ b" -/
theorem C04_abs_reorg (rows : List (Nat × α)) (b : Nat) :
    HiOp.abs rows (.reorg b) = rows.filter (fun r => r.1 < b) := rfl

/-- **tables**: after `Reorg(b)` the block table and every event table hold exactly the entries of blocks `< b`
    (ON DELETE CASCADE), whatever was stored before -/
theorem C04_tables (H : HashAlg α) (n : Nat) (s : BP α) (b : Nat) :
    (reorg H n s b).blocks = s.blocks.filter (fun x => x < b) ∧
    (reorg H n s b).rows = s.rows.filter (fun r => r.blockNum < b) ∧
    ∀ r ∈ (reorg H n s b).rows, r.blockNum < b :=
  ⟨rfl, rfl, fun _ hr => of_decide_eq_true (List.mem_filter.mp hr).2⟩

/-- **the cascade the table model relies on is really declared, for every store, and enforced on every pooled
    connection**: facts REGENERATED on every run from `*/migrations/*.sql` ("Up" sections) and the DSN in
    `db/sqlite.go`; `reorg`'s row filter in the model is exactly `ON DELETE CASCADE` under these facts. -/
theorem C04_schema_cascades :
    (∀ t ∈ Aggkit.Gen.Schema.childTables, t.cascade = true) ∧ Aggkit.Gen.Schema.dsnForeignKeysOn = true ∧
    Aggkit.Gen.Schema.childTables.length ≥ 8 := by decide

/-- rows of a block that commits are appended after all earlier rows: for histories WITHOUT legacy-token
    removals, processing never touches rows of earlier blocks, so "rows of blocks < b" is exactly what a node
    that only processed those blocks holds. (one event step; `procEvents` is the fold of this) -/
theorem C04_event_keeps_earlier_rows (H : HashAlg α) (n : Nat) (fault : Option Nat) (bn : Nat) (w : Work α) (e : Ev α)
    (hnot : ∀ pos addr, e ≠ .rmLegacy pos addr) :
    ∃ extra, (procEvent H n fault bn w e).1.rows = w.rows ++ extra ∧ ∀ r ∈ extra, r.blockNum = bn :=
  (procEvent_spec H n fault bn w e).2.2 hnot

/-- **the full statement is false with legacy-token removals** (finding F3), on the model: a migration in
    block 1, its removal in block 2, reorg of block 2 — the migration row is gone, whereas a node that only
    ever processed block 1 still lists it. The same history is replayed on the real code by the
    `bridgestore` scenario (KNOWN-FINDING). -/
theorem C04_full_false_with_rmLegacy :
    let H : HashAlg Nat := { node := fun a b => a + b + 1, zero := 0 }
    let s0 := BP.init H 2
    let s1 := (processBlock H 2 s0 { num := 1, events := [.legacy 0 "tokenA" "row"] } none).1
    let s2 := (processBlock H 2 s1 { num := 2, events := [.rmLegacy 0 "tokenA"] } none).1
    (reorg H 2 s2 2).rows = [] ∧ s1.rows.length = 1 := by decide

end Aggkit.C04

namespace Aggkit
variable {α : Type} [DecidableEq α]

/-- **a reorg of the updatable tree, then the new fork** (C04 for the rollup exit tree): upserts `us1` (blocks below `b`), upserts
    `us2` (blocks from `b` on), `Reorg(b)`, then the new fork's upserts `us3`. The tree answers exactly as the specification
    of the history `us1 ++ us3` says — the roots returned for the new fork are the spec roots of its versions, and the
    store serves every version of `us1` and of the new fork with verifying proofs; the dropped versions leave nothing
    behind that could change an answer (their nodes stay in the node table, harmlessly). -/
theorem C04_updatable_reorg (H : HashAlg α) (hinj : H.Inj) (n : Nat) (us1 us2 us3 : List (Ups α)) (b : Nat)
    (h1 : ∀ u ∈ us1, u.bn < b) (h2 : ∀ u ∈ us2, b ≤ u.bn)
    (hk1 : KeysInc (0, 0) us1) (hk2 : KeysInc (finalK (0, 0) us1) us2) (hk3 : KeysInc (finalK (0, 0) us1) us3)
    (hpos : ∀ u ∈ us1 ++ us2 ++ us3, u.pos < 2^n)
    (db12 : TreeDb α) (r12 : List α) (hrun12 : runUps H n {} (us1 ++ us2) = some (db12, r12))
    (db : TreeDb α) (r3 : List α) (hrun3 : runUps H n (db12.reorg b) us3 = some (db, r3)) :
    let f1 := finalF (fun _ => H.zero) us1
    let W1 := finalW (fun _ => False) us1
    r3 = (versions f1 W1 us3).map (fun v => tn H v.1 n 0) ∧
    ∀ v ∈ versions (fun _ => H.zero) (fun _ => False) us1 ++ versions f1 W1 us3, ∀ p, v.2 p → p < 2^n →
      getLeaf n db p (tn H v.1 n 0) = .ok (v.1 p) ∧
      calcRoot H (v.1 p) (getProof H n db p (tn H v.1 n 0)) p = tn H v.1 n 0 := by
  intro f1 W1
  obtain ⟨db1, ra, rb, hrun1, hrun2, _⟩ := runUps_append hrun12
  have hp1 : ∀ u ∈ us1, u.pos < 2^n := fun u hu => hpos u (List.mem_append_left _ (List.mem_append_left _ hu))
  have hp2 : ∀ u ∈ us2, u.pos < 2^n := fun u hu => hpos u (List.mem_append_left _ (List.mem_append_right _ hu))
  have hp3 : ∀ u ∈ us3, u.pos < 2^n := fun u hu => hpos u (List.mem_append_right _ hu)
  obtain ⟨i1, -, hroots1, -, hv1⟩ := runUps_spec hinj (UInv.empty H n) hk1 hp1 hrun1
  obtain ⟨i12, -, hroots2, hm2, -⟩ := runUps_spec hinj i1 hk2 hp2 hrun2
  -- the reorg removes exactly the rows of `us2`; the node table is left alone
  have hre : (db12.reorg b).roots = db1.roots := by
    rw [TreeDb.reorg, hroots2, List.filter_append, List.filter_eq_self.mpr, List.filter_eq_nil_iff.mpr, List.append_nil]
    · intro x hx
      obtain ⟨y, hy, rfl⟩ := List.mem_map.mp hx
      rw [decide_eq_true_eq]
      exact Nat.not_lt.mpr (h2 y.1 (List.of_mem_zip hy).1)
    · intro x hx
      rw [hroots1] at hx
      obtain ⟨y, hy, rfl⟩ := List.mem_map.mp hx
      exact decide_eq_true (h1 y.1 (List.of_mem_zip hy).1)
  -- so the reorged store satisfies the invariant of the state after `us1`
  have hlast : lastRootHash H n (db12.reorg b) = tn H f1 n 0 := by
    rw [lastRootHash, getLastRoot, hre]
    exact i1.last
  have ire : UInv H n (db12.reorg b) f1 W1 (finalK (0, 0) us1) :=
    ⟨i12.cons, hlast, i1.zo, hm2 _ _ i1.cur, fun r hr => i1.keys r (hre ▸ hr)⟩
  obtain ⟨i3, hr3, -, hm3, hv3⟩ := runUps_spec hinj ire hk3 hp3 hrun3
  refine ⟨hr3, fun v hv p hp hpb => ?_⟩
  have hcz : Closed H n db.rht v.1 v.2 ∧ ZeroOutside H v.1 v.2 := by
    rcases List.mem_append.mp hv with h | h
    · exact ⟨hm3 _ _ (hm2 _ _ (hv1 v h).1), (hv1 v h).2⟩
    · exact hv3 v h
  exact served_spec hinj i3.cons hcz.1 hcz.2 hpb hp

/-- what "the reorg was handled" rests on (regenerated from db/tx.go on every run): `Commit` reports every failure of the
    underlying commit — a `Reorg` that returns nil has committed its deletes — and runs the commit callbacks only after it -/
theorem C04_tx_code_facts :
    Gen.SyncFacts.errToNil_dbTx = [] ∧
    Gen.SyncFacts.txBody_Commit = "{ if err := s.SQLTxer.Commit(); err != nil { return err } for _, cb := range s.commitCallbacks { cb() } return nil }" :=
  ⟨rfl, rfl⟩

end Aggkit
