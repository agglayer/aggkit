import AggkitModel.Model.Downloader
import AggkitModel.Generated.SyncFacts
import AggkitModel.Proofs.Scan
/-
C05 — syncers deliver every watched event exactly once, in chain order.
For every chain, chunk size, start block and EVERY sequence of (tip, finalized) observations — tip jumps of any
size, finalized anywhere (below, at, above the tip), failing finalized lookups — the blocks the download loop
hands over are strictly increasing, each carries exactly its own watched logs, and every block with watched logs
below the loop's position has been handed over. Induction over iterations; no bound on anything.
-/
namespace Aggkit.Downloader

/-- the lookup `eventsIn` scans the range with: the watched logs of a block, if it has any -/
def logsAt (env : Env) (b : Nat) : Option (List Nat) := if env.chain b = [] then none else some (env.chain b)

section
variable {env : Env} {f t b : Nat} {evs : List Nat}

theorem logsAt_eq_none : logsAt env b = none ↔ env.chain b = [] := by
  fun_cases logsAt env b <;> simp [*]

theorem logsAt_eq_some : logsAt env b = some evs ↔ env.chain b ≠ [] ∧ evs = env.chain b := by
  fun_cases logsAt env b <;> simp [*]
  exact eq_comm

theorem eventsIn_eq_scan (env : Env) (f t : Nat) : eventsIn env f t = scan (logsAt env) f t := by
  unfold eventsIn scan logsAt
  congr
  funext b
  split <;> rfl

theorem mem_eventsIn :
    (b, evs) ∈ eventsIn env f t ↔ (f ≤ b ∧ b ≤ t ∧ env.chain b ≠ [] ∧ evs = env.chain b) := by
  rw [eventsIn_eq_scan, mem_scan, logsAt_eq_some]

theorem eventsIn_eq_nil : eventsIn env f t = [] ↔ ∀ x, f ≤ x → x ≤ t → env.chain x = [] := by
  simp only [eventsIn_eq_scan, scan_eq_nil, logsAt_eq_none]

theorem eventsIn_getLast? {b : Nat × List Nat} (h : (eventsIn env f t).getLast? = some b) :
    f ≤ b.1 ∧ b.1 ≤ t ∧ ∀ x, b.1 < x → x ≤ t → env.chain x = [] := by
  rw [eventsIn_eq_scan] at h
  obtain ⟨h1, h2, _, h4⟩ := scan_getLast? h
  exact ⟨h1, h2, fun x hx1 hx2 => logsAt_eq_none.mp (h4 x hx1 hx2)⟩

end

/-- what has been handed over so far is correct and complete below position `F` -/
structure OutOK (env : Env) (start F : Nat) (out : List Delivered) : Prop where
  sorted : out.Pairwise (fun a b => a.num < b.num)
  sound : ∀ d ∈ out, start ≤ d.num ∧ d.num < F ∧ d.events = env.chain d.num
  complete : ∀ b, start ≤ b → b < F → env.chain b ≠ [] → ∃ d ∈ out, d.num = b

theorem OutOK.append {env : Env} {start F F' : Nat} {out new : List Delivered} (h : OutOK env start F out)
    (hF : F ≤ F') (hstart : start ≤ F)
    (hs : new.Pairwise (fun a b => a.num < b.num))
    (hn : ∀ d ∈ new, F ≤ d.num ∧ d.num < F' ∧ d.events = env.chain d.num)
    (hc : ∀ b, F ≤ b → b < F' → env.chain b ≠ [] → ∃ d ∈ new, d.num = b) :
    OutOK env start F' (out ++ new) := by
  refine ⟨List.pairwise_append.mpr ⟨h.sorted, hs, fun a ha b hb => ?_⟩, fun d hd => ?_, fun b hb1 hb2 hne => ?_⟩
  · exact Nat.lt_of_lt_of_le (h.sound a ha).2.1 (hn b hb).1
  · rcases List.mem_append.mp hd with h1 | h1
    · obtain ⟨a, b, c⟩ := h.sound d h1
      exact ⟨a, Nat.lt_of_lt_of_le b hF, c⟩
    · obtain ⟨a, b, c⟩ := hn d h1
      exact ⟨Nat.le_trans hstart a, b, c⟩
  · by_cases hlt : b < F
    · obtain ⟨d, hd, e⟩ := h.complete b hb1 hlt hne
      exact ⟨d, List.mem_append_left _ hd, e⟩
    · obtain ⟨d, hd, e⟩ := hc b (Nat.le_of_not_lt hlt) hb2 hne
      exact ⟨d, List.mem_append_right _ hd, e⟩

section
variable {env : Env} {start f F F' t b : Nat} {out new : List Delivered} (fin : Nat)

/-- `append`'s three conditions on `new` say `OutOK env F F' new`: the piece handed over in one iteration is itself correct and
    complete on `[F, F')`, so an iteration only has to name its piece -/
theorem OutOK.trans (h : OutOK env start F out)
    (hn : OutOK env F F' new) (hstart : start ≤ F) (hF : F ≤ F') : OutOK env start F' (out ++ new) :=
  h.append hF hstart hn.sorted hn.sound hn.complete

theorem OutOK.of_report (hF : ∀ x, F ≤ x → x ≤ t → env.chain x = []) (h : F ≤ t + 1) :
    OutOK env f F (report env fin (eventsIn env f t)) := by
  refine ⟨?_, ?_, ?_⟩
  · rw [report, List.pairwise_map, eventsIn_eq_scan]
    exact scan_sorted
  · intro d hd
    obtain ⟨⟨b, evs⟩, hb, rfl⟩ := List.mem_map.mp hd
    obtain ⟨h1, h2, h3, h4⟩ := mem_eventsIn.mp hb
    exact ⟨h1, Nat.lt_of_not_le fun hle => h3 (hF b hle h2), h4⟩
  · intro b h1 h2 h3
    exact ⟨_, List.mem_map.mpr ⟨(b, env.chain b),
      mem_eventsIn.mpr ⟨h1, Nat.le_of_lt_succ (Nat.lt_of_lt_of_le h2 h), h3, rfl⟩, rfl⟩, rfl⟩

theorem OutOK.of_marker (hz : ∀ x, f ≤ x → x ≤ b → env.chain x = []) (h : f ≤ b) :
    OutOK env f (b + 1) [marker env fin b] :=
  ⟨List.pairwise_singleton _ _, List.forall_mem_singleton.mpr ⟨h, Nat.lt_succ_self _, (hz b h (Nat.le_refl _)).symm⟩,
    fun x h1 h2 hne => absurd (hz x h1 (Nat.le_of_lt_succ h2)) hne⟩

/-- the safe zone's output when the last block of the range has no watched logs -/
theorem OutOK.of_report_marker (hc : env.chain t = []) (h : f ≤ t) :
    OutOK env f (t + 1) (report env fin (eventsIn env f t) ++ [marker env fin t]) :=
  have hz : ∀ x, t ≤ x → x ≤ t → env.chain x = [] := fun _ h1 h2 => Nat.le_antisymm h2 h1 ▸ hc
  (OutOK.of_report fin hz (Nat.le_succ t)).trans (OutOK.of_marker fin hz (Nat.le_refl t)) h (Nat.le_succ t)

end

structure DInv (env : Env) (start : Nat) (s : DState) : Prop where
  pos : start ≤ s.from_
  tip : s.from_ ≤ s.last + 1
  range : s.from_ ≤ s.to_
  out : OutOK env start s.from_ s.out

/-- what `WaitForNewBlocks` guarantees about the tip it returns when the loop waits -/
def InputOK (s : DState) (inp : Input) : Prop :=
  (s.from_ > s.last ∨ (s.reachTop = true ∧ s.to_ ≥ s.last)) → inp.tip > s.last

theorem stepD_inv {env : Env} {start : Nat} {s : DState} {inp : Input} (inv : DInv env start s) (hin : InputOK s inp) :
    DInv env start (stepD env s inp) := by
  obtain ⟨ipos, itip, irange, iout⟩ := inv
  unfold stepD
  extract_lets waits last to0 fin reqTo reachTop blocks out1 needMarker out2 lastNum
  -- after the (optional) wait: from ≤ last, from ≤ to0 (explicit `Nat` terms here and below: with the whole loop
  -- state in the context every `omega` call costs as much as the rest of a branch)
  have hpre : s.from_ ≤ last ∧ s.from_ ≤ to0 := by
    cases hw : waits with
    | true =>
      simp only [last, to0, hw, if_true]
      refine ⟨Nat.le_trans itip (hin (by simpa [waits] using hw)), ?_⟩
      split
      · exact Nat.le_add_right ..
      · exact irange
    | false =>
      have hn := hw
      simp only [waits, Bool.or_eq_false_iff, decide_eq_false_iff_not] at hn
      simp only [last, to0, hw, Bool.false_eq_true, if_false]
      exact ⟨Nat.le_of_not_lt hn.1, irange⟩
  -- the requested range ends at `min last to0`
  have hreq : s.from_ ≤ reqTo ∧ reqTo ≤ last := ⟨Nat.le_min.mpr hpre, Nat.min_le_left last to0⟩
  clear_value waits last to0 fin reqTo reachTop
  clear hin itip irange
  cases inp.finOk with
  | false => exact ⟨ipos, Nat.le_succ_of_le hpre.1, hpre.2, iout⟩
  | true =>
    simp only [Bool.not_true, Bool.false_eq_true, if_false]
    by_cases hsafe : reqTo ≤ fin
    · -- safe zone: a marker is added exactly when block `reqTo` has no watched logs
      rw [if_pos hsafe]
      refine ⟨Nat.le_trans ipos (Nat.le_succ_of_le hreq.1), Nat.succ_le_succ hreq.2, Nat.le_add_right _ _, ?_⟩
      simp only [out2, needMarker, out1]
      cases hgl : blocks.getLast? with
      | none =>
        rw [if_pos rfl, List.append_assoc]
        exact iout.trans (.of_report_marker fin (eventsIn_eq_nil.mp (List.getLast?_eq_none_iff.mp hgl) _ hreq.1 (Nat.le_refl _))
          hreq.1) ipos (Nat.le_succ_of_le hreq.1)
      | some b =>
        obtain ⟨_, _, habove⟩ := eventsIn_getLast? hgl
        by_cases hbm : b.1 < reqTo
        · rw [if_pos (decide_eq_true hbm), List.append_assoc]
          exact iout.trans (.of_report_marker fin (habove _ hbm (Nat.le_refl _)) hreq.1) ipos (Nat.le_succ_of_le hreq.1)
        · rw [if_neg (by simpa using hbm)]
          exact iout.trans (.of_report fin (fun x h1 h2 => absurd (Nat.le_trans h1 h2) (Nat.not_succ_le_self _))
            (Nat.le_refl _)) ipos (Nat.le_succ_of_le hreq.1)
    · rw [if_neg hsafe]
      have hfin := Nat.le_of_not_le hsafe
      by_cases hemp : blocks.isEmpty = true
      · -- nothing found in the unsafe zone: move up to the finalized block, or extend the range
        rw [if_pos hemp]
        have hz := eventsIn_eq_nil.mp (List.isEmpty_iff.mp hemp)
        by_cases hfr : fin ≥ s.from_
        · rw [if_pos hfr]
          refine ⟨Nat.le_trans ipos (Nat.le_succ_of_le hfr), Nat.succ_le_succ (Nat.le_trans hfin hreq.2),
            Nat.le_add_right _ _, ?_⟩
          exact iout.trans (.of_marker fin (fun x h1 h2 => hz x h1 (Nat.le_trans h2 hfin)) hfr) ipos (Nat.le_succ_of_le hfr)
        · rw [if_neg hfr]
          exact ⟨ipos, Nat.le_succ_of_le hpre.1, Nat.le_add_right_of_le hpre.2, iout⟩
      · -- blocks found in the unsafe zone: hand them over and continue after the last of them
        rw [if_neg hemp]
        simp only [lastNum]
        cases hgl : blocks.getLast? with
        | none => exact absurd (List.isEmpty_iff.mpr (List.getLast?_eq_none_iff.mp hgl)) hemp
        | some b =>
          obtain ⟨hfb, hbt, habove⟩ := eventsIn_getLast? hgl
          refine ⟨Nat.le_trans ipos (Nat.le_succ_of_le hfb), Nat.succ_le_succ (Nat.le_trans hbt hreq.2), Nat.le_add_right _ _, ?_⟩
          exact iout.trans (.of_report fin habove (Nat.succ_le_succ hbt)) ipos (Nat.le_succ_of_le hfb)

theorem init_inv {env : Env} {start tip0 : Nat} (h : start ≤ tip0 + 1) : DInv env start (init env start tip0) :=
  ⟨Nat.le_refl _, h, Nat.le_add_right .., .nil, nofun, fun _ h1 h2 => absurd h1 (Nat.not_le_of_lt h2)⟩

def InputsOK (env : Env) : DState → List Input → Prop
  | _, [] => True
  | s, i :: is => InputOK s i ∧ InputsOK env (stepD env s i) is

theorem run_inv {env : Env} {start : Nat} {inps : List Input} {s : DState} (inv : DInv env start s)
    (hin : InputsOK env s inps) : DInv env start (run env s inps) := by
  induction inps generalizing s with
  | nil => exact inv
  | cons i is ih => exact ih (stepD_inv inv hin.1) hin.2

theorem OutOK.no_gap {env : Env} {start F : Nat} {out pre post : List Delivered} {d : Delivered} (h : OutOK env start F out)
    (hsplit : out = pre ++ d :: post) :
    ∀ b, start ≤ b → b < d.num → env.chain b ≠ [] → ∃ e ∈ pre, e.num = b := by
  subst hsplit
  intro b hb1 hb2 hne
  obtain ⟨e, he, hen⟩ := h.complete b hb1 (Nat.lt_trans hb2 (h.sound d (by simp)).2.1) hne
  rcases List.mem_append.mp he with h1 | h1
  · exact ⟨e, h1, hen⟩
  · -- `e` would stand at or after `d` in an ascending list
    have hs := (List.pairwise_append.mp h.sorted).2.1
    rcases List.mem_cons.mp h1 with rfl | h2
    · exact absurd hb2 (hen ▸ Nat.lt_irrefl _)
    · exact absurd hb2 (hen ▸ Nat.lt_asymm ((List.pairwise_cons.mp hs).1 e h2))

/-- **C05**: after ANY number of iterations on ANY admissible observation sequence: the blocks handed over are
    strictly increasing (hence each at most once), each carries exactly the watched logs of its own block in log
    order (markers only for blocks without watched logs), and every block with watched logs between the start
    and the loop's position has been handed over — so anything delivered later has a higher number: no block is
    handed over while an earlier event block is missing. -/
theorem C05_exactly_once (env : Env) (start tip0 : Nat) (inps : List Input) (h0 : start ≤ tip0 + 1)
    (hin : InputsOK env (init env start tip0) inps) :
    let s := run env (init env start tip0) inps
    s.out.Pairwise (fun a b => a.num < b.num) ∧
    (∀ d ∈ s.out, d.events = env.chain d.num ∧ start ≤ d.num ∧ d.num < s.from_) ∧
    (∀ b, start ≤ b → b < s.from_ → env.chain b ≠ [] → ∃ d ∈ s.out, d.num = b) := by
  intro s
  have inv := run_inv (init_inv h0) hin
  exact ⟨inv.out.sorted, fun d hd => by obtain ⟨a, b, c⟩ := inv.out.sound d hd; exact ⟨c, a, b⟩, inv.out.complete⟩

/-- the same holds for every prefix of the output: when block `d` was handed over, all earlier event blocks already were -/
theorem C05_no_gap (env : Env) (start tip0 : Nat) (inps : List Input) (h0 : start ≤ tip0 + 1)
    (hin : InputsOK env (init env start tip0) inps) :
    let s := run env (init env start tip0) inps
    ∀ (pre : List Delivered) (d : Delivered) (post : List Delivered), s.out = pre ++ d :: post →
      ∀ b, start ≤ b → b < d.num → env.chain b ≠ [] → ∃ e ∈ pre, e.num = b := by
  intro s pre d post hsplit
  exact (run_inv (init_inv h0) hin).out.no_gap hsplit

def exEnv0 : Env := { chain := fun b => if b = 3 then [31, 32] else if b = 4 then [41] else if b = 9 then [91] else [], chunk := 2, finalizedTag := true }

/-- **header mismatches are transparent**: whatever the header queries answer, when the range fetch returns blocks
    they are exactly the event blocks of the range (so `stepD`, which uses `eventsIn`, is what the loop sees); and with
    at most 5 disagreeing attempts it does return. The give-up path (`none`: 6 disagreeing attempts in a row, the caller
    then treats the range as empty) is outside this theorem: it is known finding F6, `runG` / `C05_giveup_false` below. -/
theorem C05_retry_transparent (env : Env) (f t : Nat) (mism : Nat → Nat → Bool) (left attempt : Nat) :
    (∀ r, getEventsRetry env f t mism left attempt = some r → r = eventsIn env f t) ∧
    ((∃ k, k ≤ left ∧ (eventsIn env f t).any (fun b => mism (attempt + k) b.1) = false) →
      getEventsRetry env f t mism left attempt = some (eventsIn env f t)) := by
  fun_induction getEventsRetry env f t mism left attempt with
  | case1 attempt hm =>
    refine ⟨nofun, fun ⟨k, hk, hf⟩ => ?_⟩
    obtain rfl := Nat.le_zero.mp hk
    rw [Nat.add_zero, hm] at hf
    exact nomatch hf
  | case3 left attempt hm ih =>
    -- this attempt met a mismatch: the clean attempt `k` is a later one
    refine ⟨ih.1, fun ⟨k, hk, hf⟩ => ih.2 ?_⟩
    rcases k with _ | k
    · rw [Nat.add_zero, hm] at hf
      exact nomatch hf
    · exact ⟨k, Nat.le_of_succ_le_succ hk, by rwa [Nat.add_assoc, Nat.add_comm 1]⟩
  | case2 | case4 => exact ⟨fun r h => (Option.some.inj h).symm, fun _ => rfl⟩

/-- the real constant: `MaxRetryCountBlockHashMismatch = 5` retries after the first attempt; the second attempt succeeding -/
example : getEventsRetry exEnv0 1 10 (fun a b => a == 0 && b == 4) 5 0 = some (eventsIn exEnv0 1 10) := by decide

theorem group_same_block (b : Nat) (ids : List Nat) (rest : List (Nat × Nat)) (acc : List (Nat × List Nat)) (evs : List Nat) :
    groupLogs (ids.map (fun id => (b, id)) ++ rest) (acc ++ [(b, evs)]) = groupLogs rest (acc ++ [(b, evs ++ ids)]) := by
  induction ids generalizing evs with
  | nil => simp
  | cons id ids ih =>
    simp only [List.map_cons, List.cons_append, groupLogs, List.getLast?_concat, Nat.lt_irrefl, if_false, List.dropLast_concat,
      ih, List.append_assoc, List.nil_append]

theorem group_open {b id : Nat} {rest : List (Nat × Nat)} {acc : List (Nat × List Nat)} (h : ∀ a ∈ acc, a.1 < b) :
    groupLogs ((b, id) :: rest) acc = groupLogs rest (acc ++ [(b, [id])]) := by
  rw [groupLogs]
  split
  · rw [if_pos (h _ (List.mem_of_getLast? ‹_›))]
  · rfl

theorem group_blocks (chain : Nat → List Nat) (bs : List Nat) (acc : List (Nat × List Nat))
    (hs : bs.Pairwise (· < ·)) (hlt : ∀ a ∈ acc, ∀ b ∈ bs, a.1 < b) :
    groupLogs (bs.flatMap (fun b => (chain b).map (fun id => (b, id)))) acc =
      acc ++ bs.filterMap (fun b => if chain b = [] then none else some (b, chain b)) := by
  induction bs generalizing acc with
  | nil => simp [groupLogs]
  | cons b bs ih =>
    have hs' := List.pairwise_cons.mp hs
    have hlt' : ∀ a ∈ acc, ∀ x ∈ bs, a.1 < x := fun a ha x hx => hlt a ha x (List.mem_cons_of_mem _ hx)
    rw [List.flatMap_cons, List.filterMap_cons]
    cases hc : chain b with
    | nil => exact ih acc hs'.2 hlt'
    | cons id ids =>
      rw [List.map_cons, List.cons_append, group_open fun a ha => hlt a ha b (List.mem_cons_self ..),
        group_same_block, ih _ hs'.2]
      · simp
      · exact forall_mem_concat.mpr ⟨hlt', hs'.1⟩

/-- **the grouping loop yields exactly the event blocks of the range**: every block that has watched logs, once, in
    ascending order, each with all of its own logs in log order and none of another block's -/
theorem C05_grouping (env : Env) (f t : Nat) : groupLogs (logsIn env f t) [] = eventsIn env f t := by
  rw [logsIn, eventsIn, group_blocks env.chain _ [] List.pairwise_lt_range' nofun, List.nil_append]

example : groupLogs (logsIn exEnv0 1 10) [] = [(3, [31, 32]), (4, [41]), (9, [91])] := by decide

/-- what the model takes from the source (regenerated from /repo on every run): the retry after a header-hash mismatch
    fetches the WHOLE range again (`getEventsRetry`), gives up after 5 retries; the grouping loop opens a block exactly
    under `groupLogs`' condition; the driver retries a failed read of the last-processed marker and starts the downloader
    at marker + 1 -/
theorem C05_code_facts :
    Gen.SyncFacts.mismatchRetryArgs = ["ctx", "fromBlock", "toBlock", "retryCount + 1"] ∧
    Gen.SyncFacts.maxRetryCountBlockHashMismatch = "5" ∧
    Gen.SyncFacts.mismatchGiveUpCond = ["retryCount >= MaxRetryCountBlockHashMismatch"] ∧
    Gen.SyncFacts.groupOpenCond = ["latestBlock == nil || latestBlock.Num < l.BlockNumber"] ∧
    Gen.SyncFacts.markerReadLoop = ["assign", "if(err != nil):continue", "break"] ∧
    Gen.SyncFacts.downloadCallArgs = ["cancellableCtx", "lastProcessedBlock + 1", "downloadCh"] := by
  and_intros <;> rfl

/-- non-vacuity: a chain with logs in blocks 3, 4 and 9, chunk 2, tip jumping 5 → 12 → 20, finalized lagging;
    the inputs are admissible and the loop hands over 3, 4, 9 and the marker 12 -/
def exEnv : Env := { chain := fun b => if b = 3 then [31, 32] else if b = 4 then [41] else if b = 9 then [91] else [], chunk := 2, finalizedTag := true }
def exInputs : List Input := [⟨5, 2, true⟩, ⟨5, 2, true⟩, ⟨12, 4, true⟩, ⟨12, 4, true⟩, ⟨12, 12, true⟩, ⟨20, 12, true⟩]
example : (run exEnv (init exEnv 1 5) exInputs).out.map (·.num) = [3, 4, 9, 12] := by decide
example : InputsOK exEnv (init exEnv 1 5) exInputs := by
  simp only [InputsOK, InputOK, exInputs]
  decide

/-! ### F6 — the give-up path of the range fetch -/

/-- without a give-up the loop is the one the theorems above are about -/
theorem runG_eq_run (env : Env) : ∀ (inps : List (Input × Bool)) (s : DState), (∀ i ∈ inps, i.2 = false) →
    runG env s inps = run env s (inps.map (·.1)) := by
  intro inps s h
  rw [runG, run, List.foldl_map]
  exact List.foldl_rel rfl fun i hi _ _ e => by rw [e, stepG, h i hi]; rfl

/-- **F6 on the model — with a give-up the full statement is FALSE**: block 3 carries watched logs, the first range [1, 11]
    lies below the finalized block; the fetch gives up, the loop hands over the marker 11 and moves on to 12: block 3 is never
    handed over although the loop's position is far beyond it. -/
theorem C05_giveup_false :
    let env : Env := { chain := fun b => if b = 3 then [31] else if b = 15 then [151] else [], chunk := 10, finalizedTag := true }
    let s := runG env (init env 1 20) [(⟨20, 20, true⟩, true), (⟨20, 20, true⟩, false)]
    s.out.map (·.num) = [11, 15, 20] ∧ s.from_ = 21 ∧ env.chain 3 ≠ [] := by
  decide

theorem stepD_congr_tip {env : Env} {s : DState} {inp : Input} {t : Nat} (h : s.from_ ≤ s.last) (hr : s.reachTop = false) :
    stepD env s inp = stepD env s { inp with tip := t } := by
  have hw : (decide (s.from_ > s.last) || (s.reachTop && decide (s.to_ ≥ s.last))) = false := by
    rw [hr, Bool.false_and, Bool.or_false, decide_eq_false (Nat.not_lt.mpr h)]
  unfold stepD
  rw [hw]
  rfl

/-- **no stall after a failed read of the finalized pointer**: the iteration in which `GetLastFinalizedBlock` fails is
    abandoned with `reachTop` cleared, so the next iteration waits for a new block only if there is really nothing left below
    the tip it knows: when `from ≤ last` it does not consult the tip at all — it fetches the pending range even on a chain that
    stays quiet from then on (whatever `WaitForNewBlocks` would have answered). -/
theorem C05_no_stall_after_failed_read (env : Env) (s : DState) (inp inp' : Input) (hf : inp.finOk = false)
    (hleft : (stepD env s inp).from_ ≤ (stepD env s inp).last) (t : Nat) :
    (stepD env s inp).reachTop = false ∧
    stepD env (stepD env s inp) inp' = stepD env (stepD env s inp) { inp' with tip := t } := by
  have hr : (stepD env s inp).reachTop = false := by
    unfold stepD
    rw [hf]
    rfl
  exact ⟨hr, stepD_congr_tip hleft hr⟩

/-- the directed schedule of the correspondence check: idle at the top (tip = finalized = 5), the tip moves to 7 with a
    watched log, the read of the finalized pointer fails once, the chain stays quiet — block 7 is handed over -/
example :
    let env : Env := { chain := fun b => if b = 3 then [31] else if b = 7 then [71] else [], chunk := 10, finalizedTag := true }
    (run env (init env 1 5) [⟨5, 5, true⟩, ⟨7, 7, false⟩, ⟨7, 7, true⟩]).out.map (·.num) = [3, 5, 7] := by decide

end Aggkit.Downloader
