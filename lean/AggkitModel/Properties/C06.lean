import AggkitModel.Proofs.ReorgSync
import AggkitModel.Generated.CertFacts
import AggkitModel.Generated.SyncFacts
/-
C06 — reorgs of processed blocks are detected; the node converges to the canonical chain.
The invariants over histories (`SysInv`, `SysInv2`: definitions, preservation by every operation, reachable states), then
the property theorems. Quantifiers: every chain history (new blocks, reorgs at any depth above the finalized block, new
forks shorter or longer than the old one, successive reorgs, finality moving at any time), two subscribers progressing at
any relative speed, detection passes and restarts at any moment, any length.
The schedule is sequential (each operation completes before the next starts); see the model file and known finding F5.
-/
namespace Aggkit.ReorgSync

def SysInv (s : Sys) : Prop := SubInv s.chain s.fin s.a ∧ SubInv s.chain s.fin s.b

/-- admissible operations: finalized blocks exist and are never replaced; finality only moves forward; block hashes do
    not repeat -/
def OpOK (s : Sys) : Op → Prop
  | .blk v => v = 0 ∨ s.maxV < v          -- a block without events, or one whose hash (version) never occurred before
  | .reorg k => s.fin < k
  | .fin f => s.fin ≤ f ∧ f ≤ s.chain.length
  | _ => True

theorem step_restart {s : Sys} (hi : SysInv s) : step s .restart = s := by
  simp only [step]
  rw [restartSub_eq hi.1, restartSub_eq hi.2]

theorem step_inv (s : Sys) (hi : SysInv s) (op : Op) (hop : OpOK s op) : SysInv (step s op) := by
  obtain ⟨ha, hb⟩ := hi
  cases op with
  | blk v => exact ⟨subInv_append v ha, subInv_append v hb⟩
  | reorg k => exact ⟨subInv_take hop ha, subInv_take hop hb⟩
  | fin f => exact ⟨subInv_fin hop.1 ha, subInv_fin hop.1 hb⟩
  | stepA n => exact ⟨stepN_inv n ha, hb⟩
  | stepB n => exact ⟨ha, stepN_inv n hb⟩
  | detect => exact ⟨(detectSub_spec ha).inv, (detectSub_spec hb).inv⟩
  | detectCrash => exact ⟨(detectCrashSub_inv ha).1, (detectCrashSub_inv hb).1⟩
  | restart => exact (step_restart ⟨ha, hb⟩).symm ▸ ⟨ha, hb⟩

/-- admissibility of a whole history, each operation judged in the state it is applied to -/
def OpsOK : Sys → List Op → Prop
  | _, [] => True
  | s, op :: rest => OpOK s op ∧ OpsOK (step s op) rest

def Reachable (s : Sys) : Prop := ∃ ops, OpsOK {} ops ∧ s = run {} ops

/-- second invariant (on top of `SubInv`): the store holds only blocks with events, whose versions have been handed out;
    and **no gap**: if a stored block and every stored block below it are still on the chain, then every block with events
    that the chain has below it is in the store too (the downloader skipped nothing it should have delivered) -/
structure SubInv2 (chain : List Nat) (maxV : Nat) (s : Sub) : Prop where
  nz : ∀ b ∈ s.store, b.2 ≠ 0
  le : ∀ b ∈ s.store, b.2 ≤ maxV
  gap : ∀ b ∈ s.store, (∀ x ∈ s.store, x.1 ≤ b.1 → Canon chain x) →
    ∀ n v, n < b.1 → canon chain n = some v → v ≠ 0 → (n, v) ∈ s.store

def SysInv2 (s : Sys) : Prop :=
  (∀ v ∈ s.chain, v ≤ s.maxV) ∧ SubInv2 s.chain s.maxV s.a ∧ SubInv2 s.chain s.maxV s.b

section
variable {chain : List Nat} {fin maxV : Nat} {s s' : Sub}

/-- the form of `SubInv2.gap` that both the step and convergence use -/
theorem complete_below (h2 : SubInv2 chain maxV s) (hall : ∀ b ∈ s.store, Canon chain b) {m : Nat}
    (hskip : ∀ k w, lastNum s.store < k → k < m → canon chain k = some w → w = 0) {n v : Nat} (hn : n < m)
    (hc : canon chain n = some v) (hv : v ≠ 0) : (n, v) ∈ s.store := by
  have hle : n ≤ lastNum s.store := Nat.le_of_not_lt fun h => hv (hskip n v h hn hc)
  have hn1 := (canon_some_le hc).1
  obtain ⟨lb, hlb, hl⟩ := lastNum_mem s.store (by omega)
  rcases Nat.lt_or_eq_of_le hle with hlt | he
  · exact h2.gap lb hlb (fun x hx _ => hall x hx) n v (hl ▸ hlt) hc hv
  · -- `n` is the number of the last stored block, which is the chain's
    have e : lb = (n, v) := Prod.ext (hl.trans he.symm) (Option.some.inj ((hall lb hlb).symm.trans (hl ▸ he ▸ hc)))
    exact e ▸ hlb

theorem stepOnce_inv2 (hi : SubInv chain fin s)
    (h2 : SubInv2 chain maxV s) (hcl : ∀ v ∈ chain, v ≤ maxV) (h : stepOnce chain fin s = some s') :
    SubInv2 chain maxV s' := by
  obtain ⟨b, hcan, hnz, -, hlt, hskip, e, -⟩ := stepOnce_some hi h
  refine ⟨e ▸ forall_mem_concat.mpr ⟨h2.nz, hnz⟩, e ▸ forall_mem_concat.mpr ⟨h2.le, hcl _ (canon_mem hcan)⟩, ?_⟩
  rw [e]
  refine forall_mem_concat.mpr ⟨fun x hx hbelow n v hn hcn hv => List.mem_append_left _ ?_,
    fun hbelow n v hn hcn hv => List.mem_append_left _ ?_⟩
  · exact h2.gap x hx (fun y hy => hbelow y (List.mem_append_left _ hy)) n v hn hcn hv
  · -- below the new block: up to the old last block the store was complete, above it the downloader skipped only
    -- blocks without events
    have hall : ∀ y ∈ s.store, Canon chain y := fun y hy => hbelow y (List.mem_append_left _ hy) (Nat.le_of_lt (hlt y hy))
    exact complete_below h2 hall (fun k w hk hkb hck => (Option.some.inj ((hskip k hk hkb).symm.trans hck)).symm) hn hcn hv

theorem stepN_inv2 (hcl : ∀ v ∈ chain, v ≤ maxV) (k : Nat)
    (hi : SubInv chain fin s) (h2 : SubInv2 chain maxV s) : SubInv2 chain maxV (stepN chain fin k s) :=
  (stepN_induct (SubInv2 chain maxV) (fun _ _ hi h2 h => stepOnce_inv2 hi h2 hcl h) k hi h2).2.1

theorem subInv2_cut (h2 : SubInv2 chain maxV s)
    (h : s'.store = s.store ∨ ∃ m, s'.store = s.store.filter (fun x => decide (x.1 < m))) : SubInv2 chain maxV s' := by
  rcases h with h | ⟨m, h⟩
  · exact ⟨h ▸ h2.nz, h ▸ h2.le, h ▸ h2.gap⟩
  · have hm : ∀ x, x ∈ s'.store ↔ x ∈ s.store ∧ x.1 < m := fun x => by
      rw [h, List.mem_filter, decide_eq_true_eq]
    refine ⟨fun b hb => h2.nz b ((hm b).mp hb).1, fun b hb => h2.le b ((hm b).mp hb).1, fun b hb hbelow n v hn hcn hv => ?_⟩
    obtain ⟨hb0, hbm⟩ := (hm b).mp hb
    exact (hm _).mpr ⟨h2.gap b hb0 (fun x hx hle => hbelow x ((hm x).mpr ⟨hx, Nat.lt_of_le_of_lt hle hbm⟩) hle) n v hn hcn hv,
      Nat.lt_trans hn hbm⟩

/-- `hcan`: a stored block that is `chain'`'s is also `chain`'s, and so is every block that `chain'` has below it; so `gap`
    for `chain'` reduces to `gap` for `chain` -/
theorem subInv2_chain {chain' : List Nat} {maxV' : Nat} (h2 : SubInv2 chain maxV s)
    (hm : maxV ≤ maxV')
    (hcan : ∀ b ∈ s.store, Canon chain' b → Canon chain b ∧ ∀ n v, n < b.1 → canon chain' n = some v → canon chain n = some v) :
    SubInv2 chain' maxV' s := by
  refine ⟨h2.nz, fun b hb => Nat.le_trans (h2.le b hb) hm, ?_⟩
  intro b hb hbelow n v hn hcn hv
  have hbc := hcan b hb (hbelow b hb (Nat.le_refl _))
  exact h2.gap b hb (fun x hx hle => (hcan x hx (hbelow x hx hle)).1) n v hn (hbc.2 n v hn hcn) hv

/-- a new block: it cannot be one the store already holds, since its version is fresh (or it has no events) -/
theorem subInv2_append {v : Nat} (hfresh : v = 0 ∨ maxV < v) (hu : SubInv2 chain maxV s) :
    SubInv2 (chain ++ [v]) (max maxV v) s :=
  subInv2_chain hu (Nat.le_max_left _ _) fun b hb hc =>
    (canon_append_cases hc).elim
      (fun ⟨hle, hc'⟩ => ⟨hc', fun _ _ hn hcn => (canon_append (Nat.le_trans (Nat.le_of_lt hn) hle)).symm.trans hcn⟩)
      fun ⟨_, hv⟩ => hfresh.elim (fun h0 => absurd (hv.trans h0) (hu.nz b hb))
        fun hlt => absurd (hv ▸ hu.le b hb) (Nat.not_le_of_lt hlt)

theorem subInv2_take (k : Nat) (hu : SubInv2 chain maxV s) : SubInv2 (chain.take (k - 1)) maxV s :=
  subInv2_chain hu (Nat.le_refl _) fun _ _ hc =>
    ⟨(canon_take_some hc).2, fun _ _ _ hcn => (canon_take_some hcn).2⟩

end

theorem step_inv2 (s : Sys) (hi : SysInv s) (h2 : SysInv2 s) (op : Op) (hop : OpOK s op) : SysInv2 (step s op) := by
  obtain ⟨ha, hb⟩ := hi
  obtain ⟨hcl, ha2, hb2⟩ := h2
  cases op with
  | blk v =>
    exact ⟨forall_mem_concat.mpr ⟨fun w hw => Nat.le_trans (hcl w hw) (Nat.le_max_left _ _), Nat.le_max_right _ _⟩,
      subInv2_append hop ha2, subInv2_append hop hb2⟩
  | reorg k => exact ⟨fun w hw => hcl w (List.mem_of_mem_take hw), subInv2_take k ha2, subInv2_take k hb2⟩
  | fin f => exact ⟨hcl, ha2, hb2⟩
  | stepA n => exact ⟨hcl, stepN_inv2 hcl n ha ha2, hb2⟩
  | stepB n => exact ⟨hcl, ha2, stepN_inv2 hcl n hb hb2⟩
  | detect =>
    exact ⟨hcl, subInv2_cut ha2 (detectSub_spec ha).cut, subInv2_cut hb2 (detectSub_spec hb).cut⟩
  | detectCrash =>
    exact ⟨hcl, subInv2_cut ha2 (Or.inl (detectCrashSub_inv ha).2), subInv2_cut hb2 (Or.inl (detectCrashSub_inv hb).2)⟩
  | restart => exact ⟨hcl, subInv2_cut ha2 (Or.inl rfl), subInv2_cut hb2 (Or.inl rfl)⟩

theorem init_inv : SysInv {} :=
  ⟨⟨nofun, nofun, .nil, nofun, .nil, rfl⟩, ⟨nofun, nofun, .nil, nofun, .nil, rfl⟩⟩

theorem init_inv2 : SysInv2 {} :=
  ⟨nofun, ⟨nofun, nofun, nofun⟩, ⟨nofun, nofun, nofun⟩⟩

theorem Reachable.induct {P : Sys → Prop} (h0 : P {}) (hs : ∀ s op, P s → OpOK s op → P (step s op)) {s : Sys}
    (h : Reachable s) : P s := by
  obtain ⟨ops, hok, rfl⟩ := h
  generalize ({} : Sys) = s0 at h0 hok
  induction ops generalizing s0 with
  | nil => exact h0
  | cons op rest ih => exact ih _ (hs s0 op h0 hok.1) hok.2

theorem reachable_inv (s : Sys) (h : Reachable s) : SysInv s ∧ SysInv2 s :=
  h.induct (P := fun s => SysInv s ∧ SysInv2 s) ⟨init_inv, init_inv2⟩ fun s op ⟨h1, h2⟩ hop =>
    ⟨step_inv s h1 op hop, step_inv2 s h1 h2 op hop⟩

/-- **every stored block is accounted for**: in every reachable state each block a syncer has processed is either still
    tracked by the detector with the hash it was processed with, or was delivered as finalized and is on the chain -/
theorem C06_tracked_or_final (s : Sys) (h : Reachable s) :
    (∀ b ∈ s.a.store, b ∈ s.a.tracked ∨ (Canon s.chain b ∧ b.1 ≤ s.fin)) ∧
    (∀ b ∈ s.b.store, b ∈ s.b.tracked ∨ (Canon s.chain b ∧ b.1 ≤ s.fin)) :=
  ⟨(reachable_inv s h).1.1.covered, (reachable_inv s h).1.2.covered⟩

/-- **detection**: after a detection pass that could fetch the headers it needed, no block that the chain has replaced
    remains in the syncer's store — the syncer has been rewound to at or before the first replaced block it had
    processed; and the rewind point is exactly the first tracked block whose hash differs -/
theorem C06_detected (chain : List Nat) (fin : Nat) (s : Sub) (hi : SubInv chain fin s)
    (hne : (detectSub chain fin s).2 ≠ .err) :
    (∀ b ∈ (detectSub chain fin s).1.store, Canon chain b) ∧
    (∀ n, (detectSub chain fin s).2 = .rewind n →
      (∃ b ∈ s.tracked, b.1 = n ∧ ¬ Canon chain b) ∧ (∀ b ∈ s.tracked, b.1 < n → Canon chain b) ∧
      (detectSub chain fin s).1.store = s.store.filter (fun x => decide (x.1 < n))) :=
  ⟨(detectSub_spec hi).clean hne, (detectSub_spec hi).first⟩

/-- **no spurious rewind**: if nothing the syncer processed has been replaced, a detection pass leaves its store alone -/
theorem C06_no_spurious_rewind (chain : List Nat) (fin : Nat) (s : Sub) (hi : SubInv chain fin s)
    (hall : ∀ b ∈ s.store, Canon chain b) :
    (detectSub chain fin s).2 = .none ∧ (detectSub chain fin s).1.store = s.store :=
  (detectSub_spec hi).quiet (fun b hb => hall b (hi.trackedStored b hb))

/-- **restart**: in every reachable state a restart of the node changes nothing — the tracked headers rebuilt from table
    `tracked_block` are the in-memory ones (so everything proved about detection holds across restarts) -/
theorem C06_restart (s : Sys) (h : Reachable s) : step s .restart = s :=
  step_restart (reachable_inv s h).1

/-- **the reload does not depend on the order of the rows**: the query that loads `tracked_block` at start-up orders by
    subscriber only; whatever order the rows of a subscriber come back in, the rebuilt list is the in-memory list the node
    had before it stopped -/
theorem C06_reload_any_order (chain : List Nat) (fin : Nat) (s : Sub) (hi : SubInv chain fin s) (rows : List Blk)
    (hp : rows.Perm s.db) : reload rows = s.tracked :=
  reload_eq_of_perm (hi.dbEq ▸ hp) hi.sortedT

example : reload [(7, 3), (2, 1), (5, 2)] = [(2, 1), (5, 2), (7, 3)] := by decide

/-- **stopped during the reorg**: if the node is stopped while a syncer is rewinding (the rewind not committed), the stale
    blocks stay in the store but also stay tracked, so the invariant behind `C06_detected` survives the restart: the next
    detection pass rewinds again -/
theorem C06_stopped_during_reorg (s : Sys) (h : Reachable s) :
    SysInv (step s .detectCrash) ∧ (step s .detectCrash).a.store = s.a.store ∧ (step s .detectCrash).b.store = s.b.store := by
  obtain ⟨ha, hb⟩ := (reachable_inv s h).1
  exact ⟨⟨(detectCrashSub_inv ha).1, (detectCrashSub_inv hb).1⟩, (detectCrashSub_inv ha).2, (detectCrashSub_inv hb).2⟩

/-- **convergence**: once the chain has stopped changing (and is at least as long as everything the detector tracks), one
    detection pass followed by syncing to the tip leaves the syncer's store equal to the canonical chain's blocks with
    events: every stored block is the chain's block of that number, every block with events that the chain has is stored,
    in ascending order. The tracked list may be sparse (blocks without events are neither delivered nor tracked). -/
theorem C06_converges (chain : List Nat) (fin maxV : Nat) (s : Sub) (hi : SubInv chain fin s)
    (hi2 : SubInv2 chain maxV s) (hcl : ∀ v ∈ chain, v ≤ maxV)
    (hlen : ∀ t ∈ s.tracked, t.1 ≤ chain.length) (k : Nat) (hk : chain.length ≤ k) :
    let s' := stepN chain fin k (detectSub chain fin s).1
    (∀ b ∈ s'.store, Canon chain b) ∧ (∀ n v, canon chain n = some v → v ≠ 0 → (n, v) ∈ s'.store) ∧
    s'.store.Pairwise (fun x y => x.1 < y.1) := by
  have hp := detectSub_spec hi
  have hne : (detectSub chain fin s).2 ≠ .err := fun h => by
    obtain ⟨t, ht, hc⟩ := hp.err h
    have := canon_eq_none.mp hc
    have := hi.pos t (hi.trackedStored t ht)
    have := hlen t ht
    omega
  obtain ⟨hi', ⟨h2', hall⟩, hend⟩ := stepN_induct (fun s => SubInv2 chain maxV s ∧ ∀ b ∈ s.store, Canon chain b)
    (fun _ _ hi ⟨h2, hall⟩ h => ⟨stepOnce_inv2 hi h2 hcl h, by
      obtain ⟨b, hcan, -, -, -, -, e, -⟩ := stepOnce_some hi h
      exact e ▸ forall_mem_concat.mpr ⟨hall, hcan⟩⟩)
    k hp.inv ⟨subInv2_cut hi2 hp.cut, hp.clean hne⟩
  -- nothing is left to deliver, or the store is at the tip: no block with events lies above the last stored one
  exact ⟨hall, fun n v hc hv => complete_below h2' hall (m := n + 1) (fun k w hk _ hck => hend.elim
    (fun h => nextDeliv_none (stepOnce_eq_none h) hk hck) fun h => by have := (canon_some_le hck).2; omega)
    (Nat.lt_succ_self n) hc hv, hi'.sortedS⟩

/-- the same for every state some admissible history leads to -/
theorem C06_converges_reachable (s : Sys) (h : Reachable s) (hlen : ∀ t ∈ s.a.tracked, t.1 ≤ s.chain.length) :
    let a' := stepN s.chain s.fin s.chain.length (detectSub s.chain s.fin s.a).1
    (∀ b ∈ a'.store, Canon s.chain b) ∧ (∀ n v, canon s.chain n = some v → v ≠ 0 → (n, v) ∈ a'.store) :=
  have r := C06_converges s.chain s.fin s.maxV s.a (reachable_inv s h).1.1 (reachable_inv s h).2.2.1 (reachable_inv s h).2.1
    hlen s.chain.length (Nat.le_refl _)
  ⟨r.1, r.2.1⟩

/-! ### non-vacuity: a fork two blocks deep over a sparse store, detected and resolved -/

/-- blocks 1 and 3 have events, block 2 has none; the fork from block 2 on has events in blocks 2 and 4 and none in 3 -/
def exOps : List Op := [.blk 1, .blk 0, .blk 2, .fin 1, .stepA 3, .reorg 2, .blk 3, .blk 0, .blk 4, .stepA 1, .detect, .stepA 9]

example : OpsOK {} exOps := by
  simp [exOps, OpsOK, OpOK, step]
example : (run {} (exOps.take 10)).a.store = [(1, 1), (3, 2), (4, 4)] ∧ (run {} (exOps.take 10)).a.tracked = [(3, 2), (4, 4)] := by
  decide
example : (run {} (exOps.take 11)).a.store = [(1, 1)] := by decide
example : (run {} exOps).a.store = [(1, 1), (2, 3), (4, 4)] ∧ (run {} exOps).chain = [1, 3, 0, 4] := by decide

/-- the order of the detector's steps after a hash mismatch that the model (and `C06_stopped_during_reorg`) assumes: the
    tracked range is dropped only after the subscriber has acknowledged the rewind (regenerated from /repo on every run) -/
theorem C06_code_facts :
    Gen.CertFacts.reorgSteps = ["insertReorgEvent", "notifySubscriber", "removeTrackedBlockRange", "removeRange"] := rfl

/-- the driver's side of the same contract (`stepOnce`, `detectLoop`): a non-finalized block is tracked BEFORE it is
    processed; on a reorg the downloader is stopped, the store rewound, and only then the detector is acknowledged -/
theorem C06_driver_code_facts :
    Gen.SyncFacts.newBlockSteps = ["AddBlockToTrack", "ProcessBlock"] ∧
    Gen.SyncFacts.trackCond = ["!b.IsFinalizedBlock"] ∧
    Gen.SyncFacts.handleReorgSteps = ["cancel", "Reorg", "send:d.reorgSub.ReorgProcessed"] ∧
    -- a block is reported as finalized (and then not tracked) only on the strength of a finalized pointer sampled BEFORE its
    -- header was checked; and no store turns a failed rewind into a success (the driver acknowledges a reorg on nil)
    Gen.SyncFacts.downloadLoopOrder.take 2 = ["GetLastFinalizedBlock", "GetEventsByBlockRange"] ∧
    Gen.SyncFacts.errToNil_evmDriver = [] ∧
    Gen.SyncFacts.errToNil_gerProcessor = ["GetLastProcessedBlock:?"] ∧
    Gen.SyncFacts.errToNil_l1infoProcessor = ["getLastProcessedBlockWithTx:row.Scan"] ∧
    Gen.SyncFacts.errToNil_bridgeProcessor = ["GetBridges:?", "GetBridgesPaged:?", "GetClaims:?", "GetClaimsPaged:?",
      "GetLegacyTokenMigrations:?", "fetchTokenMappings:?", "getLastProcessedBlockWithTx:row.Scan"] := by
  and_intros <;> rfl

/-! ### F5 — the statement at full strength (any interleaving of detector and drivers) is FALSE of the code -/

/-- **F5 on the model**: blocks 1..3 processed and tracked; blocks 2.. are replaced; the detector notifies, the driver
    rewinds and — before the detector removes the old range — processes and tracks block 2 of the new fork; the removal then
    wipes that entry. Result: block 2 (version 21) is stored, not final, and NOT tracked (`C06_tracked_or_final` fails);
    when the chain replaces it once more, a full sequential detection pass sees nothing and the subscriber keeps the
    replaced block (`C06_detected` fails). -/
theorem C06_race_false :
    let chain0 := [10, 20, 30]
    let s0 := stepN chain0 0 3 {}                       -- store = tracked = [(1,10),(2,20),(3,30)]
    let chain1 := [10, 21, 31]                           -- reorg at block 2, new fork
    let n := detectNotify chain1 0 s0                    -- notified, driver rewound; range (2,3) not yet removed
    let s1 := stepN chain1 0 1 n.1                       -- the resumed driver handles block 2 of the new fork
    let s2 := detectFinish s1 n.2                        -- only at this point the detector removes [2,3]
    let chain2 := [10, 22]                               -- block 2 is replaced once more
    let s3 := (detectSub chain2 0 s2).1                  -- a complete detection pass
    s2.store = [(1, 10), (2, 21)] ∧ s2.tracked = [(1, 10)] ∧
    (detectSub chain2 0 s2).2 = .none ∧ (2, 21) ∈ s3.store ∧ canon chain2 2 = some 22 := by
  decide

/-- the same schedule with the two halves back to back (what the sequential theorems assume) keeps the entry -/
example :
    let s0 := stepN [10, 20, 30] 0 3 {}
    let s1 := stepN [10, 21, 31] 0 1 (detectSub [10, 21, 31] 0 s0).1
    s1.tracked = [(1, 10), (2, 21)] := by decide

/-- **refinement**: in every state the sequential theorems speak about, the sequential detection pass is exactly
    "notify, then remove the range" with nothing in between -/
theorem detectSub_is_notify_then_finish (chain : List Nat) (fin : Nat) (s : Sub) (hi : SubInv chain fin s) :
    detectFinish (detectNotify chain fin s).1 (detectNotify chain fin s).2 = (detectSub chain fin s).1 := by
  -- by induction over the snapshot `ts`, for any state `u` and any `to` that is the snapshot's last number and bounds what
  -- `u` tracks
  suffices key : ∀ (ts : List Blk) (u : Sub) (to : Nat), (ts ≠ [] → to = lastNum ts) → (∀ x ∈ u.tracked, x.1 ≤ to) →
      detectFinish (detectNotifyLoop chain fin to ts u).1 (detectNotifyLoop chain fin to ts u).2 =
        (detectLoop chain fin ts u).1 from
    key s.tracked s _ (fun _ => rfl) (le_lastNum_of_sorted hi.sortedT)
  intro ts u to hlast hto
  fun_induction detectNotifyLoop chain fin to ts u with
  | case1 => rfl
  | case2 t rest u hc => simp only [detectLoop, hc, detectFinish]
  | case3 t rest u u' hc ih =>
    simp only [detectLoop, hc, if_true]
    refine ih (fun hr => ?_) fun x hx => hto x ((dropFinal_sublist fin u t).subset hx)
    obtain ⟨a, r, rfl⟩ := List.exists_cons_of_ne_nil hr
    exact (hlast (List.cons_ne_nil _ _)).trans (lastNum_append_cons [t] r a)
  | case4 t rest u v hc hne =>
    -- both cut the store and the tracked list at `t`; the table's range `[t, to]` is the same in both
    simp only [detectLoop, hc, detectFinish, if_neg hne, ← hlast (List.cons_ne_nil _ _)]
    congr 1
    exact List.filter_congr fun x hx => by have := hto x hx; simp only [decide_eq_decide]; omega

end Aggkit.ReorgSync
