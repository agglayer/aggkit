import AggkitModel.Proofs.BridgeStore
import AggkitModel.Properties.C01
import AggkitModel.Generated.SyncFacts
import AggkitModel.Model.L1InfoStore
import AggkitModel.Model.LastGER
/-
C07 — block processing is all-or-nothing under faults; retry is clean; no later block is recorded
while an earlier one is missing.
Bridge store model (Model/BridgeStore.lean; what its pieces do: Proofs/BridgeStore.lean): the fault is the index of the
write statement that fails, quantified over ALL indices and ALL blocks. The in-memory half (frontier cache after a
rollback, fault inside AddLeaf included) is the tree-level history theorem `runHistory_inv` (Proofs/TreeHistory.lean).
The L1 info store and the injected-GER store have their all-or-nothing statements at the end of the file.
-/
namespace Aggkit.C07
open Aggkit Aggkit.BridgeStore

variable {α : Type} [DecidableEq α]

/-- **all-or-nothing**: whatever the block, whichever write statement fails (any index), and for every
    other failure (duplicate key, deposit-count gap, refusal while halted): if `ProcessBlock` does not
    return success, every table — blocks, event rows, exit-tree roots and nodes — is exactly as before. -/
theorem C07_atomic (H : HashAlg α) (n : Nat) (s : BP α) (b : Block α) (fault : Option Nat)
    (hnotx : s.tm.snap = none) (hfail : (processBlock H n s b fault).2 ≠ .ok) :
    (processBlock H n s b fault).1.tm.db = s.tm.db ∧ (processBlock H n s b fault).1.rows = s.rows ∧
    (processBlock H n s b fault).1.blocks = s.blocks ∧ (processBlock H n s b fault).1.tm.snap = none := by
  cases hh : s.halted with
  | true =>
    rw [processBlock_halted H n s b fault hh]
    exact ⟨rfl, rfl, rfl, hnotx⟩
  | false =>
    obtain ⟨⟨w, halt, r⟩, heq, hs, _⟩ := processBlock_eq H n s b fault hh
    rw [heq] at hfail ⊢
    cases r with
    | none => exact absurd rfl hfail
    | some e =>
      -- the snapshot is still the one `begin` took of the tables, and the deferred rollback puts it back
      rw [step_begin hnotx] at hs
      simp only [finishBlock, step_rollback hs, and_self]

/-- an inconsistency error always leaves the processor halted — so (with `C14_refuses_while_halted`) the
    driver, which does not retry after that error, cannot record any later block either: no later block is
    recorded while an earlier one is missing. Every other error makes the driver retry the same block. -/
theorem C07_inconsistent_means_halted (H : HashAlg α) (n : Nat) (s : BP α) (b : Block α) (fault : Option Nat)
    (h : (processBlock H n s b fault).2 = .inconsistent) : (processBlock H n s b fault).1.halted = true :=
  (processBlock_halted_iff H n s b fault).mpr h

/-- **retry is clean** (tree half): a block attempt that is rolled back after ANY number of its leaves
    (fault between or inside AddLeaf calls), followed by anything, serves exactly the roots of a run in
    which the failed attempt never happened. -/
theorem C07_retry_clean_roots (H : HashAlg α) (hinj : H.Inj) (n : Nat) (ops1 ops2 : List (HiOp α))
    (bn : Nat) (leaves : List (Nat × α)) (k : Nat) (mid : Bool)
    (wfa : WFhistory H n [] (ops1 ++ [.block bn leaves (.rollbackAfter k mid)] ++ ops2))
    (wfb : WFhistory H n [] (ops1 ++ ops2)) :
    ∀ i, i < ((absHistory [] (ops1 ++ ops2)).map (·.2)).length →
      (getRootByIndex (runHistory H n (TM.init H n) (ops1 ++ [.block bn leaves (.rollbackAfter k mid)] ++ ops2)).db i).map (·.hash) =
      (getRootByIndex (runHistory H n (TM.init H n) (ops1 ++ ops2)).db i).map (·.hash) := by
  have habs : absHistory ([] : List (Nat × α)) (ops1 ++ [.block bn leaves (.rollbackAfter k mid)] ++ ops2) =
      absHistory [] (ops1 ++ ops2) := by
    simp only [absHistory, List.foldl_append, List.foldl_cons, List.foldl_nil, HiOp.abs]
  intro i hi
  exact C01_partition_irrelevant H hinj n _ _ wfa wfb (by rw [habs]) i (by rw [habs]; exact hi)

/-- **what the fault model takes from the source** (regenerated from /repo on every run). The model says: a failing
    storage statement makes `ProcessBlock` return the error, and the deferred function then rolls the transaction back
    unless the commit has succeeded. In the source of the three stores and of the tree package this is: no `err != nil`
    block inside the write path handles the error locally — the listed exceptions are the rollback's own error, row-set
    `Close` warnings of read-only pagers, the proof reader `getSiblings` (which converts a missing node into its own
    error value) and `UpsertLeaf`'s read of the last root (not found = empty tree) —, and the rollback flag is set before the first statement and cleared only after `Commit`. -/
theorem C07_code_facts :
    Gen.SyncFacts.errHandledLocally_bridgeProcessor =
      ["GetBridgesPaged:rows.Close", "GetClaimsPaged:rows.Close", "GetLegacyTokenMigrations:rows.Close", "fetchTokenMappings:rows.Close",
       "rollbackTransaction:tx.Rollback"] ∧
    Gen.SyncFacts.errHandledLocally_l1infoProcessor = ["GetLatestInfoUntilBlock:tx.Rollback", "ProcessBlock:tx.Rollback", "Reorg:tx.Rollback"] ∧
    Gen.SyncFacts.errHandledLocally_l1infoVerifyBatches = [] ∧
    Gen.SyncFacts.errHandledLocally_l1infoInitial = [] ∧
    Gen.SyncFacts.errHandledLocally_gerProcessor = ["ProcessBlock:tx.Rollback"] ∧
    Gen.SyncFacts.errHandledLocally_treeCore = ["getSiblings:t.getRHTNode"] ∧
    Gen.SyncFacts.errHandledLocally_treeAppendOnly = [] ∧
    Gen.SyncFacts.errHandledLocally_treeUpdatable = ["UpsertLeaf:t.getLastRootWithTx"] ∧
    -- `Commit` / `Rollback` of the transaction wrapper report every failure; a store halts ONLY on a real mismatch (a
    -- deposit-count gap / an announced root or leaf count that differs) — never on a transient read or write error
    Gen.SyncFacts.errToNil_dbTx = [] ∧
    -- no failure is assigned to one variable while another one is tested (`if commitErr := tx.Commit(); err != nil`)
    Gen.SyncFacts.errVarMismatch = [] ∧
    Gen.SyncFacts.txBody_Commit = "{ if err := s.SQLTxer.Commit(); err != nil { return err } for _, cb := range s.commitCallbacks { cb() } return nil }" ∧
    Gen.SyncFacts.txBody_Rollback = "{ if err := s.SQLTxer.Rollback(); err != nil { return err } for _, cb := range s.rollbackCallbacks { cb() } return nil }" ∧
    Gen.SyncFacts.haltConds_bridge = ["errors.Is(err, tree.ErrInvalidIndex)"] ∧
    Gen.SyncFacts.haltConds_l1info =
      ["root.Hash != event.UpdateL1InfoTreeV2.CurrentL1InfoRoot || root.Index+1 != event.UpdateL1InfoTreeV2.LeafCount"] ∧
    Gen.SyncFacts.rollbackGuard_bridge = "FLAG" ∧ Gen.SyncFacts.rollbackGuard_l1info = "FLAG" ∧
    Gen.SyncFacts.rollbackGuard_ger = "FLAG" ∧
    Gen.SyncFacts.rollbackFlagFlow_bridge = ["FLAG := true", "Commit", "FLAG = false"] ∧
    Gen.SyncFacts.rollbackFlagFlow_l1info = ["FLAG := true", "Commit", "FLAG = false"] ∧
    Gen.SyncFacts.rollbackFlagFlow_ger = ["FLAG := true", "Commit", "FLAG = false"] := by
  and_intros <;> rfl

end Aggkit.C07

namespace Aggkit.C07x
open Aggkit.L1InfoStore
variable {α : Type} [DecidableEq α]

/-- **L1 info store, all-or-nothing**: whatever makes `ProcessBlock` fail — a halted processor, a duplicate block, an
    announced root or leaf count that does not match (the processor halts), a recurring rollup-exit-tree state, or a
    failing storage statement (`processBlockF`) — the tables and both stored trees are exactly as before. -/
theorem C07_l1info_atomic (H : HashAlg α) (n : Nat) (s : LP α) (b : Block α) :
    ((processBlock H n s b).2 ≠ .ok → (processBlock H n s b).1.tb = s.tb) ∧
    (processBlockF H n s b).1 = s ∧ (processBlockF H n s b).2 ≠ .ok := by
  refine ⟨?_, ?_, ?_⟩
  · fun_cases processBlock H n s b
    -- refused while halted, duplicate block, failed event loop: `tb` is not written; the last exit is the success
    case case4 => exact fun h => absurd rfl h
    all_goals exact fun _ => rfl
  · fun_cases processBlockF H n s b <;> rfl
  · fun_cases processBlockF H n s b <;> simp

end Aggkit.C07x

namespace Aggkit.LastGER

/-- **injected-GER store, all-or-nothing**: a `ProcessBlock` that does not succeed leaves the store as it was -/
theorem C07_ger_atomic (s : St) (bn : Nat) (ev : Option GEv) :
    (processBlock s bn ev).2 ≠ .ok → (processBlock s bn ev).1 = s := by
  fun_cases processBlock s bn ev
  case case1 => exact fun _ => rfl
  all_goals exact fun h => absurd rfl h

end Aggkit.LastGER
