import AggkitModel.Proofs.TreeHistory
import AggkitModel.Proofs.Updatable
/-
C08 — every Merkle proof served verifies against the root it was asked for.
Runs of the updatable tree (`runUps`, `versions`) are defined in Proofs/Updatable.lean. Height `n` and the hash algebra are
arbitrary; `H.Inj` is collision-freedom.
Histories are unbounded lists of blocks (committed or rolled back at any point, incl. a fault inside AddLeaf), restarts and
reorgs; `WFhistory` states what the chain guarantees (consecutive deposit counts, increasing block numbers, keccak
leaves ≠ 0, capacity).
-/
namespace Aggkit
variable {α : Type} [DecidableEq α]

/-- **append-only trees** (exit tree, L1 info tree): after ANY well-formed history, for every stored
    version `m` (historical roots included) and every position `i < m`, the leaf served is the `i`-th
    surviving leaf and the proof served hashes with it to exactly that version's root. -/
theorem C08_appendonly (H : HashAlg α) (hinj : H.Inj) (n : Nat) (ops : List (HiOp α))
    (wf : WFhistory H n [] ops) (s : TM α) (ls : List α)
    (hs : s = runHistory H n (TM.init H n) ops) (hls : ls = (absHistory [] ops).map (·.2)) :
    ∀ m i, m ≤ ls.length → i < m →
      getLeaf n s.db i (vroot H n ls m) = .ok (ls.getD i H.zero) ∧
      calcRoot H (ls.getD i H.zero) (getProof H n s.db i (vroot H n ls m)) i = vroot H n ls m := by
  subst hs hls
  exact (history_ao hinj wf).served hinj

/-- the versions quantified over in `C08_appendonly` are exactly the rows of the root table:
    row `i` holds `vroot … (i+1)` with position `i` (so "every root the node has recorded" is covered) -/
theorem C08_roots_are_versions (H : HashAlg α) (hinj : H.Inj) (n : Nat) (ops : List (HiOp α))
    (wf : WFhistory H n [] ops) :
    let s := runHistory H n (TM.init H n) ops
    let ls := (absHistory [] ops).map (·.2)
    s.db.roots.length = ls.length ∧
    ∀ i, i < ls.length → ∃ r, s.db.roots[i]? = some r ∧ r.hash = vroot H n ls (i+1) ∧ r.index = i :=
  (history_ao hinj wf).roots

/-- **updatable tree** (rollup exit tree): one upsert on a store that is closed for the current version
    yields the spec root of the updated leaves, keeps the store closed for the old and the new version,
    and every written position of the new version is served with a verifying proof. -/
theorem C08_updatable_step (H : HashAlg α) (hinj : H.Inj) (n : Nat) (db : TreeDb α) (f : Nat → α) (W : Nat → Prop)
    (hcons : Consistent H db.rht) (hcl : Closed H n db.rht f W) (hzo : ZeroOutside H f W)
    (hroot : lastRootHash H n db = tn H f n 0)
    (bn bp i : Nat) (v : α) (hi : i < 2^n) (root : α) (db' : TreeDb α)
    (hup : upsertLeaf H n db bn bp i v = .ok (root, db')) :
    let f' := updateFn f i v
    root = tn H f' n 0 ∧ Consistent H db'.rht ∧ Closed H n db'.rht f W ∧
    Closed H n db'.rht f' (fun p => W p ∨ p = i) ∧
    (∀ p, (W p ∨ p = i) → p < 2^n →
      getLeaf n db' p root = .ok (f' p) ∧ calcRoot H (f' p) (getProof H n db' p root) p = root) := by
  intro f'
  obtain ⟨rfl, rfl⟩ := upsertLeaf_spec hinj hcons hcl hzo hroot hi hup
  have c1 := storeNodes_consistent hcons (pathNodes_consistent H n f' i)
  have c3 := closed_update i v hcl
  exact ⟨rfl, c1, closed_mono hcl, c3,
    fun p hp hpb => served_spec hinj c1 c3 (zeroOutside_update hzo i v) hpb hp⟩

inductive Term where
  | z : Term
  | leaf : Nat → Term
  | node : Term → Term → Term
  deriving DecidableEq, Repr

def TermHash : HashAlg Term := { node := Term.node, zero := Term.z }

/- non-vacuity: the free term algebra is a collision-free hash algebra, and a concrete history
   (a committed block, a rolled-back block, a reorg, a restart) is well-formed -/
example : TermHash.Inj := by
  intro a b c d h
  exact Term.node.inj h

example : WFhistory TermHash 3 ([] : List (Nat × Term))
    [ .block 1 [(0, .leaf 10), (1, .leaf 11)] .commit,
      .block 2 [(2, .leaf 12), (3, .leaf 13)] (.rollbackAfter 2 true),
      .restart,
      .block 2 [(2, .leaf 22)] .commit,
      .reorg 2,
      .block 2 [(2, .leaf 32), (3, .leaf 33)] .commit ] := by
  simp only [WFhistory, WFop, HiOp.abs]
  decide

/-- **updatable tree, whole history** (rollup exit tree): starting from the empty tree, after ANY sequence of upserts that
    all succeed (positions below `2^n`, (block, position-in-block) keys strictly increasing — what the driver delivers —,
    no tree state recurring), for EVERY root the tree has recorded, i.e. for every version `k`, the value served for a
    written position is the value last written to it as of that version, and the proof served hashes with it to exactly
    that root — however many later upserts have overwritten the position since. -/
theorem C08_updatable_history (H : HashAlg α) (hinj : H.Inj) (n : Nat) (us : List (Ups α))
    (hk : KeysInc (0, 0) us) (hpos : ∀ u ∈ us, u.pos < 2^n)
    (db : TreeDb α) (roots : List α) (hrun : runUps H n {} us = some (db, roots)) :
    let vs := versions (fun _ => H.zero) (fun _ => False) us
    roots = vs.map (fun v => tn H v.1 n 0) ∧
    ∀ v ∈ vs, ∀ p, v.2 p → p < 2^n →
      getLeaf n db p (tn H v.1 n 0) = .ok (v.1 p) ∧
      calcRoot H (v.1 p) (getProof H n db p (tn H v.1 n 0)) p = tn H v.1 n 0 := by
  intro vs
  obtain ⟨inv, r1, -, -, r4⟩ := runUps_spec hinj (UInv.empty H n) hk hpos hrun
  exact ⟨r1, fun v hv p hp hpb => served_spec hinj inv.cons (r4 v hv).1 (r4 v hv).2 hpb hp⟩

/-- non-vacuity in the free term algebra: a run of three upserts (rollup 1, rollup 3, rollup 1 again) succeeds and its
    keys increase -/
example :
    let us : List (Ups Term) := [⟨1, 0, 0, .leaf 7⟩, ⟨1, 1, 2, .leaf 8⟩, ⟨2, 0, 0, .leaf 9⟩]
    ((runUps TermHash 3 {} us).map (fun x => x.2.length)) = some 3 ∧ KeysInc (0, 0) us := by
  refine ⟨by decide, ?_⟩
  simp [KeysInc]

end Aggkit
