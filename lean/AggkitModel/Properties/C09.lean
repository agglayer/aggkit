import AggkitModel.Model.ClaimProof
import AggkitModel.Properties.C08
/-
C09 — claim proofs inside a certificate verify against the L1 info root it names.
`C09_claims_verify` composes the node-store theorem of the append-only L1 info tree (C08, for every history of blocks,
rollbacks, restarts and reorgs) with the claim-data assembly of `getImportedBridgeExits`.
-/
namespace Aggkit.ClaimProof
open Aggkit
variable {α : Type} [DecidableEq α]

/-- `verifyClaimGERs` accepts exactly the claims whose global exit root is the hash of their two exit roots -/
theorem C09_ger_checked (H : HashAlg α) (c : ClaimIn α) : gerOK H c = true ↔ c.ger = H.node c.mer c.rer := by
  unfold gerOK
  simp [eq_comm]

/-- **claim-data assembly**: if the bridge contract accepted the claim (its calldata proofs lead from the claimed leaf to
    the exit roots it named, and the global exit root is their hash) and the L1 info leaf hashes with the served proof to
    the chosen root, then everything packed into the imported bridge exit verifies: the exit leaf hashes with
    `proof_leaf_mer` to the mainnet exit root — or with `proof_leaf_ler` to the stated local exit root and that with
    `proof_ler_rer` to the rollup exit root —, the leaf's global exit root is the hash of these exit roots, and the L1 info
    leaf hashes with `proof_ger_l1root` to the named L1 info root at the stated index. -/
theorem C09_exit_proofs (H : HashAlg α) (c : ClaimIn α) (l1LeafHash : α) (l1Index : Nat) (gerSiblings : List α) (root : α)
    (hacc : ContractAccepted H c) (hl1 : calcRoot H l1LeafHash gerSiblings l1Index = root) :
    Verifies H c l1LeafHash (pack H c l1Index c.ger gerSiblings root) := by
  obtain ⟨hger, hproof⟩ := hacc
  unfold Verifies pack
  cases hm : c.mainnet with
  | true =>
    simp only [hm, if_true] at hproof ⊢
    exact ⟨hproof, trivial, hger, hl1⟩
  | false =>
    simp only [hm, Bool.false_eq_true, if_false] at hproof ⊢
    exact ⟨trivial, ⟨hproof, trivial⟩, hger, hl1⟩

/-- **the L1 info leaf proof**: after ANY well-formed history of the L1 info tree store (blocks, rolled-back blocks,
    restarts, reorgs), for every recorded version `m` of the tree — `m` is the leaf count the certificate names, its root
    the L1 info root it names — and every leaf index `i < m`, the proof the node serves for `(i, root m)` hashes with the
    `i`-th leaf to exactly that root. This is `C08_appendonly` read for the L1 info tree. -/
theorem C09_l1_proof (H : HashAlg α) (hinj : H.Inj) (n : Nat) (ops : List (HiOp α))
    (wf : WFhistory H n [] ops) (m i : Nat)
    (hm : m ≤ ((absHistory [] ops).map (·.2)).length) (hi : i < m) :
    let s := runHistory H n (TM.init H n) ops
    let ls := (absHistory [] ops).map (·.2)
    calcRoot H (ls.getD i H.zero) (getProof H n s.db i (vroot H n ls m)) i = vroot H n ls m :=
  (C08_appendonly H hinj n ops wf _ _ rfl rfl m i hm hi).2

/-- the leaf count belongs to the root: the root table holds, at row `m-1`, the root of the first `m` leaves with index
    `m-1` (so `root.Index + 1` is the number of leaves that root commits to) -/
theorem C09_leaf_count (H : HashAlg α) (hinj : H.Inj) (n : Nat) (ops : List (HiOp α)) (wf : WFhistory H n [] ops)
    (m : Nat) (hm : m < ((absHistory [] ops).map (·.2)).length) :
    ∃ r, (runHistory H n (TM.init H n) ops).db.roots[m]? = some r ∧
      r.hash = vroot H n ((absHistory [] ops).map (·.2)) (m + 1) ∧ r.index = m :=
  (C08_roots_are_versions H hinj n ops wf).2 m hm

/-- **C09**: for every history of the L1 info tree, every finalized version `m` chosen as the certificate's L1 info
    root, and every accepted claim whose global exit root sits in a leaf `i < m`, the claim data the node builds verifies
    against that root. -/
theorem C09_claims_verify (H : HashAlg α) (hinj : H.Inj) (n : Nat) (ops : List (HiOp α))
    (wf : WFhistory H n [] ops) (m i : Nat) (hm : m ≤ ((absHistory [] ops).map (·.2)).length) (hi : i < m)
    (c : ClaimIn α) (hacc : ContractAccepted H c) :
    let s := runHistory H n (TM.init H n) ops
    let ls := (absHistory [] ops).map (·.2)
    Verifies H c (ls.getD i H.zero) (pack H c i c.ger (getProof H n s.db i (vroot H n ls m)) (vroot H n ls m)) :=
  C09_exit_proofs H c _ i _ _ hacc (C09_l1_proof H hinj n ops wf m i hm hi)

/-- non-vacuity: an accepted rollup claim over a two-level toy hash -/
example : ContractAccepted (⟨fun a b => 10 * a + b, 0⟩ : HashAlg Nat)
    { mainnet := false, rollup := 1, leaf := 2, exitLeaf := 7, mer := 5, rer := 1214, ger := 1264,
      proofLocal := [1, 2], proofRollup := [3, 4] } := by
  unfold ContractAccepted
  decide

end Aggkit.ClaimProof
