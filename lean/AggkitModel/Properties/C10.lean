import AggkitModel.Model.Certificate
import AggkitModel.Proofs.Bytes
import AggkitModel.Properties.C19
import AggkitModel.Generated.CertFacts
/-
C10 — the signature commits to exactly what is sent and stored.
Proved here: the commitments are injective in every field they cover (so "changing any covered field changes the
commitment", for a collision-free hash), and the PP commitment does not read the field that is filled in after signing;
that the exit leaf survives the wire conversion is `C03_wire_leaf` (Properties/C03). The equality of the signed hash with
the commitment of the submitted message, and of the stored JSON copy with the submitted message, are observed on the
real code by the harness monitors (aggsender and certcodec scenarios) — JSON is not modelled.
-/
namespace Aggkit.Certificate
open Aggkit Aggkit.GlobalIndex

def KLen' (K : Bytes → Bytes) : Prop := ∀ m, (K m).length = 32
/-- no collisions (the standard idealisation of Keccak-256) -/
def KInj (K : Bytes → Bytes) : Prop := ∀ a b, K a = K b → a = b

/-- a concatenation of chunks of one fixed positive width determines the chunks, hence whatever the chunks determine -/
theorem flatMap_fixed_inj {α β : Type} {f : α → Bytes} {g : α → β} {n : Nat} (hn : 0 < n) (hf : ∀ x, (f x).length = n)
    (hfg : ∀ x y, f x = f y → g x = g y) {l1 l2 : List α} (h : l1.flatMap f = l2.flatMap f) : l1.map g = l2.map g := by
  induction l1 generalizing l2 with
  | nil =>
    cases l2 with
    | nil => rfl
    | cons y _ => exact absurd (hf y ▸ List.length_eq_zero_iff.mpr (List.append_eq_nil_iff.mp h.symm).1) (Nat.ne_of_gt hn)
  | cons x xs ih =>
    cases l2 with
    | nil => exact absurd (hf x ▸ List.length_eq_zero_iff.mpr (List.append_eq_nil_iff.mp h).1) (Nat.ne_of_gt hn)
    | cons y ys =>
      obtain ⟨e1, e2⟩ := List.append_inj h ((hf x).trans (hf y).symm)
      rw [List.map_cons, List.map_cons, hfg x y e1, ih e2]

/-- 32-bit rollup and leaf index (what the decoded global index of a claim always satisfies, C19) -/
def ImpWF (i : ImpExit) : Prop := i.rollup < 2^32 ∧ i.leaf < 2^32

/-- every global index fits the 32-byte word, whatever the rollup and leaf index: the encoder cuts both to 32 bits
    (so the theorems below do not use their `ImpWF` hypotheses) -/
theorem gi_lt (i : ImpExit) : i.gi < 2^256 := by
  have hr := Nat.mod_lt i.rollup (Nat.two_pow_pos 32)
  have hl := Nat.mod_lt i.leaf (Nat.two_pow_pos 32)
  rw [ImpExit.gi, generate_eq]
  split
  · exact Nat.lt_of_lt_of_le (Nat.add_lt_add_left hl _) (by decide)
  · exact Nat.lt_of_lt_of_le (mul_add_lt_sq hr hl) (by decide)

theorem giHash_inj {K : Bytes → Bytes} (hI : KInj K) {i i' : ImpExit} (h : giHash K i = giHash K i') : i.gi = i'.gi :=
  bigToLE32_inj (hI _ _ h) (gi_lt i) (gi_lt i')

/-- **PP commitment**: for a collision-free hash, two certificates with the same `PPHashToSign` have the same new
    local exit root and the same sequence of imported global indexes — changing either changes the commitment -/
theorem C10_pp_sensitive (K : Bytes → Bytes) (hL : KLen' K) (hI : KInj K) (c c' : Cert)
    (h32 : c.newLER.length = 32) (h32' : c'.newLER.length = 32)
    (hw : ∀ i ∈ c.imps, ImpWF i) (hw' : ∀ i ∈ c'.imps, ImpWF i) (h : ppCommit K c = ppCommit K c') :
    c.newLER = c'.newLER ∧ c.imps.map (·.gi) = c'.imps.map (·.gi) := by
  obtain ⟨eL, eX⟩ := List.append_inj (hI _ _ h) (h32.trans h32'.symm)
  exact ⟨eL, flatMap_fixed_inj (by decide) (fun _ => hL _) (fun _ _ => giHash_inj hI) (hI _ _ eX)⟩

/-- the part of the aggchain data the FEP commitment reads -/
def paramsWord (K : Bytes → Bytes) (c : Cert) : Bytes :=
  match c.aggchainParams with
  | some p => p
  | none => K []

theorem fepChunk_length {K : Bytes → Bytes} (hL : KLen' K) (i : ImpExit) : (fepChunk K i).length = 64 := by
  rw [fepChunk, List.length_append, bigToLE32_length, exitHash, hL]

/-- **FEP commitment**: same `FEPHashToSign` ⇒ same new local exit root, same height, same aggchain parameters, and the
    same sequence of (global index, exit leaf) pairs of the imported exits -/
theorem C10_fep_sensitive (K : Bytes → Bytes) (hL : KLen' K) (hI : KInj K) (c c' : Cert)
    (h32 : c.newLER.length = 32) (h32' : c'.newLER.length = 32) (hh : c.height < 2^64) (hh' : c'.height < 2^64)
    (hp : (paramsWord K c).length = 32) (hp' : (paramsWord K c').length = 32)
    (hw : ∀ i ∈ c.imps, ImpWF i) (hw' : ∀ i ∈ c'.imps, ImpWF i) (h : fepCommit K c = fepCommit K c') :
    c.newLER = c'.newLER ∧ c.height = c'.height ∧ paramsWord K c = paramsWord K c' ∧
    c.imps.map (fun i => (i.gi, exitHash K i.exit)) = c'.imps.map (fun i => (i.gi, exitHash K i.exit)) := by
  -- peel the fixed-width chunks off the hashed string from the right
  obtain ⟨h1, eP⟩ := List.append_inj' (hI _ _ h) (hp.trans hp'.symm)
  obtain ⟨h2, eH⟩ := List.append_inj' h1 (by simp only [fillLE_length])
  obtain ⟨eL, eX⟩ := List.append_inj h2 (h32.trans h32'.symm)
  refine ⟨eL, fillLE_inj eH hh hh', eP, flatMap_fixed_inj (by decide) (fepChunk_length hL) (fun x y hxy => ?_) (hI _ _ eX)⟩
  obtain ⟨a, b⟩ := List.append_inj hxy (by simp only [bigToLE32_length])
  rw [bigToLE32_inj a (gi_lt x) (gi_lt y), b]

/-- field widths of an exit as the node builds it -/
structure ExitWF (e : Exit) : Prop where
  leafType : e.leafType < 256
  origNet : e.origNet < 2^32
  destNet : e.destNet < 2^32
  origAddr : e.origAddr.length = 20
  destAddr : e.destAddr.length = 20
  amount : e.amount < 2^256
  metadata : e.metadata.length = 0 ∨ e.metadata.length = 32

/-- the metadata word the exit hash reads: an empty metadata hashes like `keccak("")` -/
def metaWord (K : Bytes → Bytes) (e : Exit) : Bytes := if e.metadata.length = 0 then K [] else e.metadata

theorem metaWord_length {K : Bytes → Bytes} (hL : KLen' K) {e : Exit} (hw : ExitWF e) : (metaWord K e).length = 32 := by
  fun_cases metaWord K e
  case case1 => exact hL _
  case case2 h => exact hw.metadata.resolve_left h

/-- **exit leaf**: same `BridgeExit.Hash` ⇒ same leaf type, token, destination, amount and metadata word -/
theorem C10_exit_sensitive (K : Bytes → Bytes) (hL : KLen' K) (hI : KInj K) (e e' : Exit) (hw : ExitWF e) (hw' : ExitWF e')
    (h : exitHash K e = exitHash K e') :
    e.leafType = e'.leafType ∧ e.origNet = e'.origNet ∧ e.origAddr = e'.origAddr ∧ e.destNet = e'.destNet ∧
    e.destAddr = e'.destAddr ∧ e.amount = e'.amount ∧ metaWord K e = metaWord K e' := by
  -- the last chunk of `exitHash` is `metaWord` unfolded
  obtain ⟨h1, eM⟩ := List.append_inj' (hI _ _ h) ((metaWord_length hL hw).trans (metaWord_length hL hw').symm)
  obtain ⟨h2, eA⟩ := List.append_inj' h1 (by simp only [fillBE_length])
  obtain ⟨h3, eDA⟩ := List.append_inj' h2 (hw.destAddr.trans hw'.destAddr.symm)
  obtain ⟨h4, eDN⟩ := List.append_inj' h3 (by simp only [fillBE_length])
  obtain ⟨h5, eOA⟩ := List.append_inj' h4 (hw.origAddr.trans hw'.origAddr.symm)
  obtain ⟨eT, eON⟩ := List.append_inj' h5 (by simp only [fillBE_length])
  exact ⟨List.singleton_inj.mp eT, fillBE_inj eON hw.origNet hw'.origNet, eOA, fillBE_inj eDN hw.destNet hw'.destNet, eDA,
    fillBE_inj eA hw.amount hw'.amount, eM⟩

/-- **certificate id**: same `Certificate.Hash` ⇒ same network, height, previous and new local exit root, and the same
    sequences of exit leaves and of imported-exit hashes -/
theorem C10_id_sensitive (K : Bytes → Bytes) (hL : KLen' K) (hI : KInj K) (c c' : Cert)
    (hn : c.networkID < 2^32) (hn' : c'.networkID < 2^32) (hh : c.height < 2^64) (hh' : c'.height < 2^64)
    (hp : c.prevLER.length = 32) (hp' : c'.prevLER.length = 32) (h32 : c.newLER.length = 32) (h32' : c'.newLER.length = 32)
    (h : certHash K c = certHash K c') :
    c.networkID = c'.networkID ∧ c.height = c'.height ∧ c.prevLER = c'.prevLER ∧ c.newLER = c'.newLER ∧
    c.exits.map (exitHash K) = c'.exits.map (exitHash K) ∧ c.imps.map (impHash K) = c'.imps.map (impHash K) := by
  have hK : ∀ a b, (K a).length = (K b).length := fun a b => (hL a).trans (hL b).symm
  obtain ⟨h1, eI⟩ := List.append_inj' (hI _ _ h) (hK _ _)
  obtain ⟨h2, eE⟩ := List.append_inj' h1 (hK _ _)
  obtain ⟨h3, eN⟩ := List.append_inj' h2 (h32.trans h32'.symm)
  obtain ⟨h4, eP⟩ := List.append_inj' h3 (hp.trans hp'.symm)
  obtain ⟨eNet, eH⟩ := List.append_inj' h4 (by simp only [fillBE_length])
  exact ⟨fillBE_inj eNet hn hn', fillBE_inj eH hh hh', eP, eN,
    flatMap_fixed_inj (by decide) (fun _ => hL _) (fun _ _ e => e) (hI _ _ eE),
    flatMap_fixed_inj (by decide) (fun _ => hL _) (fun _ _ e => e) (hI _ _ eI)⟩

/-- an imported exit's hash covers its exit leaf, its claim data hash and its global index -/
theorem C10_imp_sensitive (K : Bytes → Bytes) (hL : KLen' K) (hI : KInj K) (i i' : ImpExit)
    (hc : i.claimHash.length = 32) (hc' : i'.claimHash.length = 32) (hw : ImpWF i) (hw' : ImpWF i')
    (h : impHash K i = impHash K i') :
    exitHash K i.exit = exitHash K i'.exit ∧ i.claimHash = i'.claimHash ∧ i.gi = i'.gi := by
  obtain ⟨h1, eG⟩ := List.append_inj' (hI _ _ h) ((hL _).trans (hL _).symm)
  obtain ⟨eE, eC⟩ := List.append_inj' h1 (hc.trans hc'.symm)
  exact ⟨eE, eC, giHash_inj hI eG⟩

/-- the PP commitment does not read the field that is filled in after signing (`AggchainData`): the hash handed to the
    signer before the signature is attached is the commitment of the final certificate -/
theorem C10_signed_is_commit (K : Bytes → Bytes) (c : Cert) (x : Option Bytes) :
    ppCommit K { c with aggchainParams := x } = ppCommit K c := rfl

/-- the rollup index of a mainnet-flagged global index is not covered (the encoder ignores it, C19): stated, not hidden -/
example : generate true 5 7 = generate true 0 7 := by decide

/-! ### non-vacuity: the hypotheses on `K` are satisfiable in the model (`Bytes` are lists of naturals) -/

def encList : List Nat → Nat
  | [] => 0
  | x :: xs => 2 ^ x * (2 * encList xs + 1)

theorem pow_odd_le {x y a b : Nat} (h : 2 ^ x * (2 * a + 1) = 2 ^ y * (2 * b + 1)) : x ≤ y := by
  -- otherwise cancelling `2 ^ y` leaves an even number equal to an odd one
  refine Nat.le_of_not_lt fun hlt => ?_
  obtain ⟨d, rfl⟩ := Nat.exists_eq_add_of_lt hlt
  rw [Nat.add_assoc, Nat.pow_add, Nat.mul_assoc, Nat.pow_succ, Nat.mul_right_comm] at h
  have e := congrArg (· % 2) (Nat.eq_of_mul_eq_mul_left (Nat.two_pow_pos y) h)
  simp only [Nat.mul_mod_left, Nat.mul_add_mod] at e
  exact absurd e (by decide)

theorem pow_odd_inj {x y a b : Nat} (h : 2 ^ x * (2 * a + 1) = 2 ^ y * (2 * b + 1)) : x = y ∧ a = b := by
  obtain rfl := Nat.le_antisymm (pow_odd_le h) (pow_odd_le h.symm)
  exact ⟨rfl, Nat.eq_of_mul_eq_mul_left (by decide) (Nat.succ.inj (Nat.eq_of_mul_eq_mul_left (Nat.two_pow_pos x) h))⟩

theorem encList_inj : ∀ (l1 l2 : List Nat), encList l1 = encList l2 → l1 = l2
  | [], [], _ => rfl
  | [], y :: _, h => absurd h (Nat.ne_of_lt (Nat.mul_pos (Nat.two_pow_pos y) (Nat.succ_pos _)))
  | x :: _, [], h => absurd h (Nat.ne_of_gt (Nat.mul_pos (Nat.two_pow_pos x) (Nat.succ_pos _)))
  | x :: xs, y :: ys, h => by
    obtain ⟨rfl, e⟩ := pow_odd_inj h
    rw [encList_inj xs ys e]

def demoK (m : Bytes) : Bytes := encList m :: List.replicate 31 0

example : KLen' demoK ∧ KInj demoK := by
  refine ⟨fun m => by simp [demoK], ?_⟩
  intro a b h
  simp only [demoK, List.cons.injEq, and_true] at h
  exact encList_inj a b h

/-- what "the configured signer" is, read from the source (regenerated on every run): both flows build their certificate
    signer from the aggsender's own key configuration -/
theorem C10_code_facts : Aggkit.Gen.CertFacts.flowSignerConfigs = ["cfg.AggsenderPrivateKey", "cfg.AggsenderPrivateKey"] := rfl

end Aggkit.Certificate
