import AggkitModel.Model.L1InfoStore
import AggkitModel.Properties.C01
import AggkitModel.Properties.C08
import AggkitModel.Generated.SyncFacts
/-
C11 — the L1 info tree and the rollup exit tree mirror the L1 contracts.
Store model: Model/L1InfoStore.lean. Tree halves reuse the Merkle core (any height, any hash algebra, H.Inj).
-/
namespace Aggkit.C11
open Aggkit Aggkit.L1InfoStore

variable {α : Type} [DecidableEq α]

theorem rollupIdx_eq {id : Nat} (h1 : 1 ≤ id) (h2 : id ≤ 2^32) : rollupIdx id = id - 1 := by
  unfold rollupIdx
  rw [Nat.sub_add_comm h1, Nat.add_mod_right, Nat.mod_eq_of_lt (by omega)]

theorem procUpsert_ok {H : HashAlg α} {n bn : Nat} {w : Work α} {pos rollupID : Nat} {exitRoot : α} {payload : String}
    (h : (procUpsert H n bn w pos rollupID exitRoot payload).2.2 = none) :
    ∃ newRoot rdb', upsertLeaf H n w.tb.rollup bn pos (rollupIdx rollupID) exitRoot = .ok (newRoot, rdb') ∧
      (procUpsert H n bn w pos rollupID exitRoot payload).1 = { w with tb := { w.tb with rollup := rdb', vbs := w.tb.vbs ++
        [{ blockNum := bn, pos := pos, rollupID := rollupID, exitRoot := exitRoot, rollupExitRoot := newRoot,
           payload := payload }] } } := by
  revert h
  fun_cases procUpsert H n bn w pos rollupID exitRoot payload
  case case4 => exact fun _ => ⟨_, _, ‹_›, rfl⟩
  all_goals exact nofun

theorem procEvent_leaves {H : HashAlg α} {n bn init : Nat} {w : Work α} {e : Ev α}
    (h : (procEvent H n bn init w e).2.2 = none) :
    ((procEvent H n bn init w e).1.tb.leaves = w.tb.leaves ∧ (procEvent H n bn init w e).1.added = w.added) ∨
    ∃ r, (procEvent H n bn init w e).1.tb.leaves = w.tb.leaves ++ [r] ∧ r.index = init + w.added ∧ r.blockNum = bn ∧
      (procEvent H n bn init w e).1.added = w.added + 1 := by
  revert h
  fun_cases procEvent H n bn init w e
  -- the failing exits: duplicate leaf, AddLeaf errors, V2 without / against the last root, second `init`
  case case1 | case2 | case3 | case5 | case6 | case11 => exact fun h => nomatch h
  -- a new info leaf; then the exits that store no leaf: matching V2, skipped verification, first `init`; the upsert
  case case4 => exact fun _ => .inr ⟨_, rfl, rfl, rfl, rfl⟩
  case case7 | case8 | case9 | case12 => exact fun _ => .inl ⟨rfl, rfl⟩
  case case10 =>
    intro h
    obtain ⟨_, _, _, e⟩ := procUpsert_ok h
    rw [e]
    exact .inl ⟨rfl, rfl⟩

/-- **consecutive indices in chain order**: whatever the mix of events in a block, the info leaves stored by
    a successful pass over the events get the indices `initialIndex + added, +1, +2, …` in event order, and
    nothing else is appended to or removed from the leaf table -/
theorem C11_indices_consecutive (H : HashAlg α) (n : Nat) (bn init : Nat) :
    ∀ (es : List (Ev α)) (w w' : Work α) (hl : Bool), procEvents H n bn init w es = (w', hl, none) →
      ∃ rows : List (LeafRow α), w'.tb.leaves = w.tb.leaves ++ rows ∧
        rows.map (·.index) = List.range' (init + w.added) rows.length ∧
        w'.added = w.added + rows.length ∧ (∀ r ∈ rows, r.blockNum = bn) := by
  intro es w
  fun_induction procEvents H n bn init w es
  case case1 w =>
    intro w' hl h
    cases h
    exact ⟨[], (List.append_nil _).symm, rfl, rfl, fun _ hx => nomatch hx⟩
  case case2 w e es w1 hl1 heq ih =>
    intro w' hl h
    obtain ⟨rows, h1, h2, h3, h4⟩ := ih w' hl h
    have := procEvent_leaves (congrArg (·.2.2) heq)
    rw [heq] at this
    rcases this with ⟨e1, e2⟩ | ⟨r, e1, e2, e3, e4⟩
    · exact ⟨rows, by rw [h1, e1], by rw [h2, e2], by rw [h3, e2], h4⟩
    · rw [e4, ← Nat.add_assoc] at h2
      refine ⟨r :: rows, ?_, ?_, ?_, ?_⟩
      · rw [h1, e1, List.append_assoc]
        rfl
      · rw [List.map_cons, List.length_cons, List.range'_succ, e2, h2]
      · rw [h3, e4, List.length_cons]
        omega
      · intro x hx
        rcases List.mem_cons.mp hx with rfl | hx
        · exact e3
        · exact h4 x hx
  case case3 hr => exact fun w' hl h => absurd h (hr w' hl)

/-- **root announcements**: a V2 event halts the syncer exactly when the announced (root, leaf count) differs
    from the synced tree's last root and size; otherwise it changes nothing -/
theorem C11_v2_check_iff (H : HashAlg α) (n : Nat) (bn init : Nat) (w : Work α) (root : α) (leafCount : Nat)
    (r : RootRow α) (hr : getLastRoot w.tb.info = some r) :
    ((procEvent H n bn init w (.v2 root leafCount)).2.1 = true ↔ (r.hash ≠ root ∨ r.index + 1 ≠ leafCount)) ∧
    (procEvent H n bn init w (.v2 root leafCount)).1 = w ∧
    ((procEvent H n bn init w (.v2 root leafCount)).2.2 = none ↔ (r.hash = root ∧ r.index + 1 = leafCount)) := by
  have hneg : (r.hash = root ∧ r.index + 1 = leafCount) ↔ ¬(r.hash ≠ root ∨ r.index + 1 ≠ leafCount) := by
    rw [not_or, Decidable.not_not, Decidable.not_not]
  simp only [procEvent, hr, hneg]
  split
  next h => exact ⟨⟨fun _ => h, fun _ => rfl⟩, rfl, ⟨fun e => (nomatch e), fun hn => absurd h hn⟩⟩
  next h => exact ⟨⟨fun e => (nomatch e), fun hp => absurd hp h⟩, rfl, ⟨fun _ => h, fun _ => rfl⟩⟩

/-- **rollup exit tree**: an effective batch verification records, as the rollup exit root of that update,
    the root of the tree of last exit roots with position `rollupID-1` set to the verified exit root — the value
    the rollup manager computes — and it is the tree's new last version. Zero exit roots are skipped. -/
theorem C11_verify_records_manager_root (H : HashAlg α) (hinj : H.Inj) (n : Nat) (bn init : Nat) (w : Work α)
    (f : Nat → α) (W : Nat → Prop)
    (hcons : Consistent H w.tb.rollup.rht) (hcl : Closed H n w.tb.rollup.rht f W) (hzo : ZeroOutside H f W)
    (hroot : lastRootHash H n w.tb.rollup = tn H f n 0)
    (pos rollupID : Nat) (exitRoot : α) (payload : String)
    (hid : 1 ≤ rollupID) (hidb : rollupID ≤ 2^n) (hn : n ≤ 32)
    (w' : Work α) (hl : Bool)
    (hev : procEvent H n bn init w (.verify pos rollupID exitRoot false payload) = (w', hl, none)) :
    (w'.tb.vbs = w.tb.vbs ∧ w'.tb.rollup = w.tb.rollup) ∨
    (∃ row, w'.tb.vbs = w.tb.vbs ++ [row] ∧ row.rollupID = rollupID ∧ row.exitRoot = exitRoot ∧
      row.rollupExitRoot = tn H (updateFn f (rollupID - 1) exitRoot) n 0 ∧
      Closed H n w'.tb.rollup.rht (updateFn f (rollupID - 1) exitRoot) (fun p => W p ∨ p = rollupID - 1) ∧
      Consistent H w'.tb.rollup.rht) := by
  simp only [procEvent, Bool.false_eq_true, if_false] at hev
  split at hev
  · cases hev
    exact .inl ⟨rfl, rfl⟩
  · obtain ⟨newRoot, rdb', hup, e⟩ := procUpsert_ok (congrArg (·.2.2) hev)
    rw [hev] at e
    subst e
    have hidx := rollupIdx_eq hid (Nat.le_trans hidb (Nat.pow_le_pow_right (by omega) hn))
    rw [hidx] at hup
    obtain ⟨e1, c1, _, c3, _⟩ := C08_updatable_step H hinj n w.tb.rollup f W hcons hcl hzo hroot bn pos (rollupID - 1)
      exitRoot (by omega) newRoot rdb' hup
    exact .inr ⟨_, rfl, rfl, rfl, e1, c3, c1⟩

/-- a zero exit root is skipped entirely: the rollup keeps its last non-zero exit root -/
theorem C11_zero_exit_root_skipped (H : HashAlg α) (n : Nat) (bn init : Nat) (w : Work α) (pos rollupID : Nat)
    (exitRoot : α) (payload : String) :
    procEvent H n bn init w (.verify pos rollupID exitRoot true payload) = (w, false, none) := by
  simp [procEvent]

/-- **L1 info tree root = the global-exit-root contract's root**: the L1 info tree is the same append-only
    tree machine as the exit tree, fed with consecutive indices (`C11_indices_consecutive`); for every
    well-formed history the root recorded for index `i` is the deposit-contract algorithm's root after `i+1` leaves. -/
theorem C11_info_root_is_contract_root (H : HashAlg α) (hinj : H.Inj) (n : Nat) (ops : List (HiOp α))
    (wf : WFhistory H n [] ops) (s : TM α) (ls : List α)
    (hs : s = runHistory H n (TM.init H n) ops) (hls : ls = (absHistory [] ops).map (·.2)) :
    ∀ i, i < ls.length → i + 1 < 2^n →
      ∃ r, getRootByIndex s.db i = some r ∧
        r.hash = DC.getRoot H n (DC.depositAll H n (DC.empty H n) (ls.take (i+1))) :=
  C01_root H hinj n ops wf s ls hs hls

/-- what the model takes from the source (regenerated on every run): the position an event gets inside its block is the
    LOG index (unique per block, in emission order) — the model's "one leaf per update, in chain order" rests on it; the
    same holds for the bridge syncer's events -/
theorem C11_code_facts :
    Gen.SyncFacts.blockPosExprs_l1info = ["uint64(l.Index)"] ∧ Gen.SyncFacts.blockPosExprs_bridge = ["uint64(l.Index)"] :=
  ⟨rfl, rfl⟩

end Aggkit.C11
