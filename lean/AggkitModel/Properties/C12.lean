import AggkitModel.Model.BridgeAPI
import AggkitModel.Properties.C08
import AggkitModel.Generated.CertFacts
/-
C12 — the bridge API's claim flow yields proofs the bridge contract would accept.
The L1-info-index lookups never name a leaf that does not cover the bridge (for every content
of the stores, every deposit count), and the proof part is C08's store theorem read for the exit trees.
-/
namespace Aggkit.BridgeAPI

theorem rootIdx_covers {cnt ri dc : Nat} (h : rootIdx cnt = some ri) (hle : ¬ri < dc) : dc < cnt := by
  unfold rootIdx at h
  split at h
  · cases h
  · cases h
    omega

/-- `best` only ever holds a recorded leaf that covers the deposit, and so does an exact hit -/
theorem loopL1_sound {infos : List Info} {dc fuel lower upper : Nat} {best r : Info} (hb : best ∈ infos)
    (hc : dc < best.mcount) (h : loopL1 infos dc fuel lower upper best = some r) : r ∈ infos ∧ dc < r.mcount := by
  fun_induction loopL1 infos dc fuel lower upper best
  -- out of fuel, or the interval is empty: `best` is the answer
  case case1 | case7 =>
    cases h
    exact ⟨hb, hc⟩
  -- no leaf after the target block, or it has no root: an error
  case case2 | case3 => cases h
  -- the probed leaf is too old: go right with the same `best` / it is exact / it covers: go left with it as `best`
  case case4 ih => exact ih hb hc h
  case case5 =>
    cases h
    exact ⟨List.mem_of_find?_eq_some ‹_›, rootIdx_covers ‹_› ‹_›⟩
  case case6 ih => exact ih (List.mem_of_find?_eq_some ‹_›) (rootIdx_covers ‹_› ‹_›) h

/-- **`/l1-info-tree-index` for a mainnet bridge never names a leaf whose mainnet exit root does not cover the bridge**:
    whatever the L1 info tree and the bridge store contain, an answer `idx` for deposit `dc` is the index of a recorded
    leaf whose mainnet exit root commits to more than `dc` deposits; otherwise the call returns an error -/
theorem C12_index_covers_l1 (infos : List Info) (dc idx : Nat) (h : searchL1 infos dc = .ok idx) :
    ∃ i ∈ infos, i.index = idx ∧ dc < i.mcount := by
  revert h
  fun_cases searchL1 infos dc
  -- the one exit that answers: the last leaf covers the deposit, and the loop started with it as `best`
  case case3 last first _ hl ri hri hlt best hbest =>
    intro h
    cases h
    obtain ⟨hm, hc⟩ := loopL1_sound (List.mem_of_getLast? hl) (rootIdx_covers hri hlt) hbest
    exact ⟨_, hm, rfl, hc⟩
  all_goals exact nofun

theorem loopL2_sound {vs : List Verify} {dc fuel lower upper : Nat} {best r : Verify} (hb : best ∈ vs)
    (hc : dc < best.lcount) (h : loopL2 vs dc fuel lower upper best = some r) : r ∈ vs ∧ dc < r.lcount := by
  fun_induction loopL2 vs dc fuel lower upper best
  -- the cases of `loopL1_sound`, in the same order
  case case1 | case7 =>
    cases h
    exact ⟨hb, hc⟩
  case case2 | case3 => cases h
  case case4 ih => exact ih hb hc h
  case case5 =>
    cases h
    exact ⟨List.mem_of_find?_eq_some ‹_›, rootIdx_covers ‹_› ‹_›⟩
  case case6 ih => exact ih (List.mem_of_find?_eq_some ‹_›) (rootIdx_covers ‹_› ‹_›) h

/-- equal rollup exit roots contain the same local exit root of this network -/
def RerCoherent (vs : List Verify) (infos : List Info) : Prop :=
  ∀ v ∈ vs, ∀ i ∈ infos, i.rerId = v.rerId → i.lcount = v.lcount

/-- **`/l1-info-tree-index` for an L2 bridge never names a leaf whose rollup exit root does not cover the bridge** -/
theorem C12_index_covers_l2 (vs : List Verify) (infos : List Info) (hco : RerCoherent vs infos) (dc idx : Nat)
    (h : searchL2 vs infos dc = .ok idx) : ∃ i ∈ infos, i.index = idx ∧ dc < i.lcount := by
  revert h
  fun_cases searchL2 vs infos dc
  -- the one exit that answers: as in `searchL1`, then the first leaf carrying the found verification's rollup exit root
  case case3 last first _ hl ri hri hlt best hbest i hfi =>
    intro h
    cases h
    obtain ⟨hm, hc⟩ := loopL2_sound (List.mem_of_getLast? hl) (rootIdx_covers hri hlt) hbest
    have hi := List.mem_of_find?_eq_some hfi
    have hid := List.find?_some hfi
    rw [← hco best hm i hi (of_decide_eq_true hid)] at hc
    exact ⟨i, hi, rfl, hc⟩
  all_goals exact nofun

/-- non-vacuity: two leaves per block, the first one predating the deposit; the lookup answers with a covering leaf -/
example : searchL1 [⟨0, 5, 1, 0, 0⟩, ⟨1, 5, 3, 0, 0⟩, ⟨2, 7, 4, 1, 0⟩] 2 = .ok 2 := by decide
example : searchL1 [⟨0, 5, 1, 0, 0⟩, ⟨1, 5, 3, 0, 0⟩, ⟨2, 7, 4, 1, 0⟩] 4 = .err := by decide

end Aggkit.BridgeAPI

namespace Aggkit
variable {α : Type} [DecidableEq α]

/-- **the claim proof**: the bridge syncers' exit trees are append-only tree stores; after ANY well-formed history, for
    the exit root of any recorded version `m` (the mainnet exit root of an L1 info leaf, or the local exit root found in
    its rollup exit tree) and any deposit `dc < m` it covers, the proof served by `GetProof(dc, root)` hashes the
    deposit's leaf to exactly that root (C08's store theorem). The second half — local exit root to rollup exit root —
    is the same statement for the updatable rollup exit tree (`C08_updatable_step`, one upsert at a time). -/
theorem C12_claim_proof (H : HashAlg α) (hinj : H.Inj) (n : Nat) (ops : List (HiOp α))
    (wf : WFhistory H n [] ops) (m dc : Nat) (hm : m ≤ ((absHistory [] ops).map (·.2)).length) (hdc : dc < m) :
    let s := runHistory H n (TM.init H n) ops
    let ls := (absHistory [] ops).map (·.2)
    calcRoot H (ls.getD dc H.zero) (getProof H n s.db dc (vroot H n ls m)) dc = vroot H n ls m :=
  (C08_appendonly H hinj n ops wf _ _ rfl rfl m dc hm hdc).2

namespace Aggkit.BridgeAPI
/-- the block searches halve their interval (regenerated from /repo on every run) -/
theorem C12_code_facts : Gen.CertFacts.binarySearchDivider = "2" := rfl
end Aggkit.BridgeAPI

namespace BridgeAPI
theorem firstInjectedAfter_eq (injected : List Nat) (i : Nat) :
    firstInjectedAfter injected i = (injected.filter (fun k => decide (i ≤ k))).min? := by
  unfold firstInjectedAfter
  generalize injected.filter _ = l
  have hsome : ∀ (l : List Nat) a, l.foldl (fun acc k => match acc with | none => some k | some a => some (min a k)) (some a) =
      some (l.foldl min a) := by
    intro l
    induction l with
    | nil => exact fun _ => rfl
    | cons k l ih => exact fun _ => ih _
  cases l with
  | nil => rfl
  -- both sides unfold to `some (foldl … k l)`: the fold's first step, and `List.min?_cons'`
  | cons k l => exact hsome l k

/-- **the injected leaf** (`/injected-l1-info-leaf`): for a claim on the L2 the API hands out the FIRST L1 info leaf at or
    after the requested index whose global exit root has been injected on that L2 (a claim against any other leaf would
    be rejected by the bridge contract, which only knows injected roots); it finds one whenever one exists -/
theorem C12_injected_leaf (injected : List Nat) (i : Nat) :
    (∀ k, firstInjectedAfter injected i = some k → k ∈ injected ∧ i ≤ k ∧ ∀ j ∈ injected, i ≤ j → k ≤ j) ∧
    ((∃ j ∈ injected, i ≤ j) → (firstInjectedAfter injected i).isSome) := by
  rw [firstInjectedAfter_eq]
  constructor
  · intro k hk
    obtain ⟨hm, hmin⟩ := List.min?_eq_some_iff.mp hk
    have := List.mem_filter.mp hm
    exact ⟨this.1, of_decide_eq_true this.2, fun j hj hij => hmin j (List.mem_filter.mpr ⟨hj, decide_eq_true hij⟩)⟩
  · intro ⟨j, hj, hij⟩
    rw [List.isSome_min?_iff]
    exact List.ne_nil_of_mem (List.mem_filter.mpr ⟨hj, decide_eq_true hij⟩)

example : firstInjectedAfter [5, 2, 9] 3 = some 5 ∧ firstInjectedAfter [5, 2, 9] 10 = none := by decide
end BridgeAPI

end Aggkit
