import AggkitModel.Properties.C02
import AggkitModel.Proofs.GenPrelude
import AggkitModel.Generated.CertFacts
import AggkitModel.Generated.InitialStatus
import AggkitModel.Generated.FlowBase
import AggkitModel.Generated.NextHeight
/-
C13 — certificate bookkeeping survives crashes and a lost database.
The operations quantified over include `crash` (between two loop iterations), a tick whose
process dies between the submission and the local write (`epoch true` / `status true`), `losedb` and `restart`, at any
point of any history, for every Agglayer-side state those histories can produce.
Atomicity of the save transaction itself is a property of SQLite; it is observed by the harness monitor
(`savefault` ops) and is part of the trusted base, not of these theorems.
-/
namespace Aggkit.Aggsender
open Aggkit.CertRange

/-- a reachable state: any admissible history from an empty node and an empty Agglayer -/
def Reachable (size : Params → Nat) (s : Sys) : Prop :=
  ∃ cfg ops, opsOK size { cfg := cfg } ops = true ∧ s = run size { cfg := cfg } ops

theorem reachable_inv (size : Params → Nat) (s : Sys) (h : Reachable size s) : Inv s := by
  obtain ⟨cfg, ops, ho, e⟩ := h
  rw [e]
  exact run_inv size ops _ (init_inv cfg) ho

/-- **after any history (crashes, lost database, restarts included) the next certificate the node builds — with the PP flow
    or the aggchain-prover flow — has the correct height, previous exit root and first block**: the ones the Agglayer's
    records require -/
theorem C13_next_certificate_correct (size : Params → Nat) (s : Sys) (h : Reachable size s) (hup : s.up = true)
    (c : ACert) (retry tb : Nat) (hb : (buildAny size s).1 = .cert c retry tb) :
    (c.height, c.prev, c.from_) = expect s.cfg s.agg ∧
    (∀ x, s.agg.getLast? = some x → x.status.isOpen = false) := by
  have hi := reachable_inv size s h
  obtain ⟨b1, -, -, -, b5⟩ := buildAny_spec hi hup hb
  exact ⟨b1.1, fun _ => last_closed (hi.syncUp hup) b5⟩

/-- the node never holds two certificates for one height -/
theorem C13_one_per_height (size : Params → Nat) (s : Sys) (h : Reachable size s) :
    s.loc.Pairwise (fun a b => a.height < b.height) := (reachable_inv size s h).sorted

/-- **a successful start-up reconciliation leaves records that describe the Agglayer's last certificate** (or none
    when the Agglayer has none), whatever state the node stopped in -/
theorem C13_restart_reconciles (size : Params → Nat) (s : Sys) (h : Reachable size s) (hok : (restart s).2 = true) :
    SyncUp (restart s).1.loc (restart s).1.agg :=
  have ⟨hi, hup, _⟩ := restart_inv s (reachable_inv size s h)
  hi.syncUp (hup hok)

/-- **no refusal without a contradiction**: in every state a history can leave the node in (stopped between two
    iterations, stopped between a submission and its record — also the submission of a replacement —, database lost),
    the start-up reconciliation succeeds unless a call to the Agglayer fails. The records of a reachable state never
    contradict the Agglayer's, so this is the "refuses only on contradiction" half of C13 for honest histories; the
    refusing branches themselves are `process`'s `none` results (kept verbatim in the model). -/
theorem C13_reconciliation_succeeds (size : Params → Nat) (s : Sys) (h : Reachable size s) (hd : s.up = false)
    (hfr : s.failRec = false) : (restart s).2 = true := by
  rw [(restart_inv s (reachable_inv size s h)).2.2, hd, hfr]
  rfl

/-- non-vacuity: the demo history of C02 stops the node between submitting a replacement and recording it; the
    restart succeeds and the records then describe the Agglayer's last certificate -/
example : (run sizeExact {} (demoOps.take 6)).up = false ∧ (run sizeExact {} (demoOps.take 6)).agg.length = 2 ∧
    (run sizeExact {} (demoOps.take 6)).loc.map (·.id) = [1] ∧
    (restart (run sizeExact {} (demoOps.take 6))).2 = true ∧
    (restart (run sizeExact {} (demoOps.take 6))).1.loc.map (·.id) = [2] := by decide

/-- the byte layout of the certificate metadata word that `Model/Certificate.lean` (`metaToHash` / `metaFromHash`) assumes,
    as the code has it (regenerated from /repo on every run) -/
theorem C13_code_facts :
    Gen.CertFacts.metaDecodeLayout = ["0", "1:9", "9:13", "13:17", "1:9", "9:13", "13:17", "17"] ∧
    Gen.CertFacts.metaEncodeLayout = ["0", "1:9", "9:13", "13:17", "17"] := ⟨rfl, rfl⟩

/-! ### the model against the translation regenerated from the source: `process`, `lastSentBlockAndRetry`, `nextHeightPrev` -/

open Aggkit.GenPrelude

def stCode : St → Nat
  | .pending => 0 | .proven => 1 | .candidate => 2 | .inError => 3 | .settled => 4
def hdrOfCert (c : ACert) : CertHdr := { Height := c.height, Status := stCode c.status, CertificateID := c.id }
def hdrOfRow (r : Row) : CertHdr := { Height := r.height, Status := stCode r.status, CertificateID := r.id }
def encodeAct : Option Action → Ret
  | none => .error
  | some .none => .result 0 none
  | some (.update c) => .result 1 (some (hdrOfCert c))
  | some (.insert c) => .result 2 (some (hdrOfCert c))

theorem stCode_inError (s : St) : (stCode s == 3) = decide (s = .inError) := by cases s <;> rfl

/-- Go's `a && b` as the translator renders it: `b` is evaluated only when `a` holds -/
theorem goAnd (p : Prop) [Decidable p] (b : Bool) : (if p then some b else some false) = some (decide p && b) := by
  split <;> simp [*]

/-- Go's `a || b` likewise -/
theorem goOr (p : Prop) [Decidable p] (b : Bool) : (if p then some true else some b) = some (decide p || b) := by
  split <;> simp [*]

open Gen.InitialStatus in
theorem consistent_is_the_source (settled pending : Option ACert) (l : Option CertHdr) :
    initialStatus_checkAgglayerConsistenceCerts ⟨settled.map hdrOfCert, pending.map hdrOfCert, l⟩ =
      some (!agglayerConsistent settled pending) := by
  cases settled with
  | none =>
    cases pending with
    | none => rfl
    | some p =>
      -- only the status and whether the height is 0 are tested: both sides evaluate
      obtain ⟨id, height, f, t, pv, nw, br, cl, status, opt⟩ := p
      cases height <;> cases status <;> rfl
  | some st =>
    cases pending with
    | none => rfl
    | some p =>
      -- Two heights are compared, so the sides do not evaluate. The Go control flow still does, by unfolding alone, and leaves
      -- Boolean tests. (`dsimp`, not `simp`: `simp`'s congruence rule for `if` rejects a step that only unfolds a definition
      -- such as `hdrOfCert` and falls back, at three times the cost.)
      dsimp only [initialStatus_checkAgglayerConsistenceCerts, agglayerConsistent, hdrOfCert, CertificateStatus_IsInError,
        InError, Option.pure_def, Option.bind_eq_bind, Option.bind_some, Option.map_some, Option.isNone_some,
        Bool.false_eq_true, ↓dreduceIte]
      simp [stCode_inError, goAnd, goOr]

open Gen.InitialStatus in
theorem latest_is_the_source (settled pending : Option ACert) (l : Option CertHdr) :
    initialStatus_getLatestAggLayerCert ⟨settled.map hdrOfCert, pending.map hdrOfCert, l⟩ =
      some ((lastOfPS settled pending).map hdrOfCert) := by
  cases pending <;> rfl

open Gen.InitialStatus in
/-- **the decision table of the start-up reconciliation IS the source**: `Gen.InitialStatus.initialStatus_process` is the
    translation of `initialStatus.process` (with `checkAgglayerConsistenceCerts` and `getLatestAggLayerCert`) that
    `tools/goextract` regenerates from aggsender/statuschecker/initial_state.go on every run — pointers as `Option`, a nil
    dereference as `none`. For every combination of Agglayer answers and local record the Go function returns what the
    model's `process` (about which `process_spec` and the C13 theorems speak) returns, and never dereferences nil.
    Heights are `uint64` in the code: the hypothesis excludes only a local record at height 2^64-1. -/
theorem C13_process_is_the_source (settled pending : Option ACert) (loc : Option Row) (hb : ∀ l ∈ loc, l.height + 1 < 2^64) :
    Gen.InitialStatus.initialStatus_process ⟨settled.map hdrOfCert, pending.map hdrOfCert, loc.map hdrOfRow⟩
      = some (encodeAct (process settled pending loc)) := by
  unfold initialStatus_process
  rw [consistent_is_the_source, latest_is_the_source]
  cases hc : agglayerConsistent settled pending
  · rw [process_inconsistent _ _ _ hc]
    rfl
  cases loc with
  | none =>
    -- without a local record every test is on the presence of a certificate, on its status, or on its height being 0:
    -- both sides evaluate once these are known
    rw [process_no_row _ _ hc]
    cases settled with
    | some st => cases pending <;> rfl
    | none =>
      cases pending with
      | none => rfl
      | some p =>
        obtain ⟨id, height, f, t, pv, nw, br, cl, status, opt⟩ := p
        cases height <;> cases status <;> rfl
  | some l =>
    rw [process_some_row _ _ l hc]
    cases lastOfPS settled pending with
    | none => rfl
    | some c =>
      -- with all three records present the Go control flow evaluates by unfolding, down to the function's last chain of `if`s
      -- (over `decide (_ < _)`, `==`, `!=`, `add64`)
      dsimp only [hdrOfRow, hdrOfCert, CertificateStatus_IsInError, InError, InitialStatusActionInsertNewCert,
        InitialStatusActionUpdateCurrentCert, Option.pure_def, Option.bind_eq_bind, Option.bind_some, Option.map_some,
        Option.isNone_some, Option.isSome_some, Bool.not_true, Bool.false_eq_true, ↓dreduceIte]
      -- with the tests as propositions it is the model's chain of `if`s over the same conditions
      simp only [add64_of_lt (hb l rfl), stCode_inError, goAnd, Option.bind_some, Bool.and_eq_true, decide_eq_true_eq, beq_iff_eq,
        bne_iff_ne, apply_ite some, apply_ite encodeAct]
      rfl

def sentHdrOfRow (r : Row) : SentHdr := { ToBlock := r.to_, FromBlock := r.from_, Status := stCode r.status, RetryCount := r.retry }

/-- **`getLastSentBlockAndRetryCount` IS the source**: the translation of `baseFlow.getLastSentBlockAndRetryCount`
    (aggsender/flows/flow_base.go: local variables re-assigned inside nested `if`s, a nil check, a read through the pointer)
    that `tools/goextract` regenerates on every run returns, for every record, what the model's `lastSentBlockAndRetry`
    returns — the block after which the next certificate starts and its retry count (C02's "no gap, no overlap" and C13's
    "correct first block" are stated over this function). The bounds are those of the Go types (`uint64` blocks, `int` count). -/
theorem C13_next_start_is_the_source (start : Nat) (row : Option Row)
    (hb : ∀ r ∈ row, r.from_ < 2^64 ∧ r.retry + 1 < 2^64) :
    Gen.FlowBase.baseFlow_getLastSentBlockAndRetryCount ⟨start⟩ (row.map sentHdrOfRow) = some (lastSentBlockAndRetry start row) := by
  cases row with
  | none => rfl
  | some r =>
    obtain ⟨h1, h2⟩ := hb r rfl
    dsimp only [Gen.FlowBase.baseFlow_getLastSentBlockAndRetryCount, Gen.FlowBase.InError, lastSentBlockAndRetry, sentHdrOfRow,
      Option.pure_def, Option.bind_eq_bind, Option.bind_some, Option.map_some, Option.isNone_some, Bool.false_eq_true,
      ↓dreduceIte]
    rw [stCode_inError, add64_of_lt h2]
    by_cases he : r.status = .inError
    · by_cases hf : 0 < r.from_
      · simp [he, hf, sub64_of_le hf h1]
      · simp [he, hf]
    · simp [he]

def fullHdrOfRow (r : Row) : FullHdr :=
  { Height := r.height, Status := stCode r.status, NewLocalExitRoot := r.new, PreviousLocalExitRoot := r.prev }

/-- the environment the model assumes: the network's start exit root is the empty tree's (0 leaves), the store answers every
    height query with the row it holds there -/
def envOf (loc : List Row) : baseFlowEnv :=
  { getStartLER := some 0, headerByHeight := fun h => some ((rowAt loc h).map fullHdrOfRow) }

/-- **`getNextHeightAndPreviousLER` IS the source**: the translation of `baseFlow.getNextHeightAndPreviousLER` (nil check,
    status predicates, a pointer field inside the record, two calls into the environment — `getStartLER` and the store's
    `GetCertificateHeaderByHeight` — each with its error branch) regenerated from aggsender/flows/flow_base.go on every run
    returns, for every last record and every store content, what the model's `nextHeightPrev` returns: the height and the
    previous exit root every certificate is built from (C02's chain, C13's "correct height, previous exit root"). It never
    dereferences nil. Bound: heights are `uint64`. -/
theorem C13_next_height_is_the_source (loc : List Row) (last : Option Row) (hb : ∀ r ∈ last, r.height + 1 < 2^64) :
    Gen.NextHeight.baseFlowEnv_getNextHeightAndPreviousLER (envOf loc) (last.map fullHdrOfRow) = some (nextHeightPrev loc last) := by
  cases last with
  | none => rfl
  | some r =>
    dsimp only [Gen.NextHeight.baseFlowEnv_getNextHeightAndPreviousLER, Gen.NextHeight.CertificateStatus_IsClosed, envOf,
      fullHdrOfRow, Option.pure_def, Option.bind_eq_bind, Option.bind_some, Option.map_some, Option.isNone_some,
      Bool.false_eq_true, ↓dreduceIte]
    rw [add64_of_lt (hb r rfl)]
    -- what is left to compare are tests on statuses, on the presence of records and on the height being 0: both sides evaluate
    obtain ⟨height, id, status, from_, to_, retry, prev, new, hasProof, opt⟩ := r
    cases status
    case inError =>
      cases prev with
      | some p => rfl
      | none =>
        cases height with
        | zero => rfl
        | succ n =>
          rw [sub64_of_le (Nat.le_add_left 1 n) (Nat.lt_of_succ_lt (hb _ rfl))]
          simp only [nextHeightPrev, Nat.add_sub_cancel]
          cases rowAt loc n with
          | none => rfl
          | some q =>
            obtain ⟨_, _, status, _⟩ := q
            cases status <;> rfl
    all_goals rfl

end Aggkit.Aggsender
