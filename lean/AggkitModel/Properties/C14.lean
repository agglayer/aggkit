import AggkitModel.Proofs.BridgeStore
import AggkitModel.Generated.QueryTable
/-
C14 — a syncer that detects an inconsistency fails stop.
(1) the table of exported entry points of both syncer facades is REGENERATED from the Go source on every
run; the theorem below is a `decide` over that whole finite table — the property's quantifier ("every
exported data-query entry point, including ones added later") is exactly this table. (2) facts about the
processors' ProcessBlock / Reorg extracted from source. (3) the state-machine half on the store model.
-/
namespace Aggkit.C14
open Aggkit.Gen.QueryTable Aggkit.BridgeStore

/-- entry points that do not serve data derived from the store (reviewed list) -/
def exempt : List String := ["Start", "OriginNetwork", "BlockFinality", "GetLastReorgEvent"]

/-- **every exported data query of both syncers starts with the halted guard** -/
theorem C14_all_queries_guarded : ∀ q ∈ queries, q.name ∉ exempt → q.guarded = true := by
  -- stated with `∨`, evaluation compares names only for the unguarded entries, and finds each of them in `exempt`
  have h : ∀ q ∈ queries, q.guarded = true ∨ q.name ∈ exempt := by decide
  exact fun q hq hne => (h q hq).resolve_right hne

/-- the facades expose at least the queries the properties talk about (non-vacuity of the table) -/
theorem C14_table_nonempty :
    (queries.filter (fun q => q.syncer = "BridgeSync")).length ≥ 10 ∧
    (queries.filter (fun q => q.syncer = "L1InfoTreeSync")).length ≥ 10 := by decide

/-- both processors refuse blocks while halted and clear the flag only through the number of block rows a
    reorg deleted, after its commit (facts extracted from bridgesync/processor.go, l1infotreesync/processor.go) -/
theorem C14_processor_facts :
    bridgeProcessBlockGuarded = true ∧ l1infoProcessBlockGuarded = true ∧
    bridgeReorgUnhaltsByBlockRows = true ∧ l1infoReorgUnhaltsByBlockRows = true := ⟨rfl, rfl, rfl, rfl⟩

variable {α : Type} [DecidableEq α]

/-- while halted no block is accepted and nothing changes -/
theorem C14_refuses_while_halted (H : HashAlg α) (n : Nat) (s : BP α) (b : Block α) (f : Option Nat)
    (h : s.halted = true) : processBlock H n s b f = (s, .inconsistent) :=
  processBlock_halted H n s b f h

/-- the condition is cleared only by a reorg that actually removes processed blocks -/
theorem C14_unhalt_iff (H : HashAlg α) (n : Nat) (s : BP α) (first : Nat) (h : s.halted = true) :
    (reorg H n s first).halted = false ↔ ∃ b ∈ s.blocks, b ≥ first := by
  simp only [reorg, h, ite_eq_left_iff, Bool.true_eq_false, imp_false, Decidable.not_not, List.length_pos_iff_exists_mem,
    List.mem_filter, decide_eq_true_eq]

/-- a restart (new process) is the only other way the in-memory flag goes away; the tables are unaffected -/
theorem C14_restart_keeps_tables (H : HashAlg α) (n : Nat) (s : BP α) :
    (restart H n s).rows = s.rows ∧ (restart H n s).blocks = s.blocks := ⟨rfl, rfl⟩

end Aggkit.C14
