import AggkitModel.Model.Oracle
/-
C15 — the GER oracle injects only finalized, current, not-yet-present roots, and keeps injecting.
All tick sequences, all relative speeds of finality / syncing / ticking, all transient dependency errors.
-/
namespace Aggkit.Oracle

/-- the target carried between ticks is always 0 or a finalized sample taken at an earlier tick -/
def TargetOK (target : Nat) (samples : List Nat) : Prop := target = 0 ∨ target ∈ samples

/-- a tick is `tickAt` at the carried target, at a fresh sample of the finalized block, or at 0 (which fails, as
    a failed sampling does) -/
theorem tick_eq_tickAt (target : Nat) (e : Env) :
    ∃ t, (t = 0 ∨ t = e.fin ∨ t = target) ∧ tick target e = tickAt t e := by
  fun_cases tick target e
  · exact ⟨0, .inl rfl, rfl⟩
  · exact ⟨e.fin, .inr (.inl rfl), rfl⟩
  · exact ⟨target, .inr (.inr rfl), rfl⟩

/-- **one tick**: the invariant on the carried target is kept, and (safety) a root is injected only if it is the most
    recent L1 info root at or below a block `T` that had the configured finality when sampled (at this tick or an earlier
    one), which the syncer has reached, and which the L2 contract did not have when checked -/
theorem C15_safe_tick (target : Nat) (e : Env) (samples : List Nat) (h : TargetOK target samples) :
    TargetOK (tick target e).1 (e.fin :: samples) ∧
    ∀ g T, (tick target e).2 = .injected g T →
      T ∈ e.fin :: samples ∧ T ≤ e.lpb ∧ (∃ l, latestUntil e.leaves T = some l ∧ l.ger = g) ∧ e.l2.contains g = false := by
  obtain ⟨t, ht, heq⟩ := tick_eq_tickAt target e
  have ht : TargetOK t (e.fin :: samples) := by
    rcases ht with rfl | rfl | rfl
    · exact .inl rfl
    · exact .inr (List.mem_cons_self ..)
    · exact h.imp_right (List.mem_cons_of_mem _)
  rw [heq]
  fun_cases tickAt t e
  -- the target is kept only while the syncer is behind it; only the last exit injects
  case case3 => exact ⟨ht, nofun⟩
  case case8 h0 _ hl l hm _ hc _ =>
    refine ⟨.inl rfl, fun g T hout => ?_⟩
    cases hout
    exact ⟨ht.resolve_left h0, Nat.le_of_not_lt hl, ⟨l, hm, rfl⟩, eq_false_of_ne_true hc⟩
  all_goals exact ⟨.inl rfl, nofun⟩

/-- safety lifted to every tick sequence -/
theorem C15_safe (envs : List Env) :
    ∀ (target : Nat) (samples : List Nat), TargetOK target samples →
    ∀ (i : Nat) (e : Env) (g T : Nat), envs[i]? = some e → (run target envs).2[i]? = some (.injected g T) →
      (T ∈ (envs.take (i+1)).map (·.fin) ∨ T ∈ samples) ∧ T ≤ e.lpb ∧
      (∃ l, latestUntil e.leaves T = some l ∧ l.ger = g) ∧ e.l2.contains g = false := by
  induction envs with
  | nil =>
    intro _ _ _ i e g T he
    cases he
  | cons e0 es ih =>
    intro target samples hok i e g T he ho
    obtain ⟨hok', hsafe⟩ := C15_safe_tick target e0 samples hok
    rw [run] at ho
    cases i with
    | zero =>
      cases he
      obtain ⟨a, r⟩ := hsafe g T (by simpa using ho)
      exact ⟨by simpa using a, r⟩
    | succ j =>
      obtain ⟨a, r⟩ := ih _ _ hok' j e g T he ho
      refine ⟨?_, r⟩
      simp only [List.take_succ_cons, List.map_cons, List.mem_cons] at a ⊢
      exact a.elim (.inl ∘ .inr) (·.elim (.inl ∘ .inl) .inr)

/-- a root already on L2 is never injected again by that tick -/
theorem C15_skip_if_present (target : Nat) (e : Env) (g T : Nat) (h : (tick target e).2 = .injected g T) :
    e.l2.contains g = false :=
  ((C15_safe_tick target e [target] (.inr (List.mem_singleton_self _))).2 g T h).2.2.2

/-- **progress** (holds since the F11 fix): once a finalized block `F` has been sampled and the syncer was not
    ready for it, the oracle keeps `F` as its target over any number of ticks in which the syncer is still behind
    (dependencies answering), and at the first tick where the syncer has reached `F` it injects — or finds
    injected — the most recent root at or below `F`. Newer finalized blocks sampled in between cannot starve it. -/
theorem C15_progress (F : Nat) (hF : F ≠ 0) (waiting : List Env) (e : Env)
    (hwait : ∀ w ∈ waiting, w.syncErr = false ∧ w.lpb < F)
    (he : e.syncErr = false ∧ F ≤ e.lpb ∧ e.isInjErr = false ∧ e.injErr = false)
    (l : Leaf) (hl : latestUntil e.leaves F = some l) :
    (run F waiting).1 = F ∧
    ((tick F e).2 = .injected l.ger F ∨ (tick F e).2 = .already l.ger) := by
  constructor
  · induction waiting with
    | nil => rfl
    | cons w ws ih =>
      obtain ⟨h1, h2⟩ := hwait w (List.mem_cons_self ..)
      have ht : tick F w = (F, .notReady F) := by
        rw [tick, if_neg hF, tickAt, if_neg hF, if_neg (ne_true_of_eq_false h1), if_pos h2]
      rw [run, ht]
      exact ih fun x hx => hwait x (List.mem_cons_of_mem _ hx)
  · obtain ⟨h1, h2, h3, h4⟩ := he
    rw [tick, if_neg hF, tickAt, if_neg hF, if_neg (ne_true_of_eq_false h1), if_neg (Nat.not_lt.2 h2), hl]
    dsimp only
    rw [if_neg (ne_true_of_eq_false h3)]
    by_cases hc : e.l2.contains l.ger = true
    · rw [if_pos hc]
      exact .inr rfl
    · rw [if_neg hc, if_neg (ne_true_of_eq_false h4)]
      exact .inl rfl

/-- non-vacuity: finality advancing 10 per tick with the syncer 5 behind the newest finalized block — the schedule
    that starved the oracle before the fix: the first sample (100) is injected-for at the second tick -/
example : (run 0 [ { fin := 100, lpb := 95, leaves := [⟨90, 7⟩], l2 := [] },
                   { fin := 110, lpb := 105, leaves := [⟨90, 7⟩, ⟨104, 8⟩], l2 := [] } ]).2
    = [.notReady 100, .injected 7 100] := by decide

/-- **what is injected stays in the L1 info tree**: an L1 reorg from block `k` on, `k` above the finalized block `T` a root
    was fetched for, followed by whatever the new fork brings (leaves of blocks `k` and above), does not change the most
    recent root at or below `T` — the roots the oracle injects are not affected by reorgs of non-finalized blocks -/
theorem C15_final_stable (leaves more : List Leaf) (k T : Nat) (hk : T < k) (hmore : ∀ l ∈ more, k ≤ l.block) :
    latestUntil (reorgLeaves leaves k ++ more) T = latestUntil leaves T := by
  unfold latestUntil reorgLeaves
  have h1 : more.filter (fun l => decide (l.block ≤ T)) = [] :=
    List.filter_eq_nil_iff.mpr fun l hl h => Nat.lt_irrefl T
      (Nat.lt_of_lt_of_le hk (Nat.le_trans (hmore l hl) (of_decide_eq_true h)))
  rw [List.filter_append, List.filter_filter, h1, List.append_nil]
  congr 1
  refine List.filter_congr fun l _ => ?_
  simp only [Bool.and_eq_left_iff_imp, decide_eq_true_eq]
  omega

example : latestUntil (reorgLeaves [⟨90, 7⟩, ⟨104, 8⟩, ⟨107, 9⟩] 105 ++ [⟨106, 10⟩]) 104 = some ⟨104, 8⟩ := by decide

end Aggkit.Oracle
