import AggkitModel.Model.LastGER
import AggkitModel.Generated.SyncFacts
import AggkitModel.Proofs.Scan
/-
C16 — the injected-GER index reflects what was really injected on L2 (PP mode).
For every L2 chain (at most one GER event per block), every sequence of polls with tips advancing by ANY
amount: the table equals the fold of the GER events of all blocks up to the last tip seen, hence the query
returns the first injected, not-removed root at or after the requested index, and finds one whenever one exists.
The same for the full history — polls, restarts and reorgs at any block (`C16_table_ops`, `C16_query_ops`) — under one
hypothesis. Known gap (finding F4): a removal that is later reorged away is not undone; that case is excluded by the
hypothesis, shown to be real on the model (`C16_reorg_false_with_removal`) and replayed on the code as a KNOWN-FINDING.
FEP mode: every row is an L1 info leaf the L2 GER map held when its block was polled, and the last such leaf is chosen.
-/
namespace Aggkit.LastGER

def applyEv (rows : List Row) (be : Nat × GEv) : List Row :=
  match be.2 with
  | .insert g i => rows ++ [{ blockNum := be.1, ger := g, idx := i }]
  | .remove g => rows.filter (fun r => r.ger != g)

/-- the downloader/processor state refines "all GER events of the blocks below `from`" -/
structure Inv (chain : Chain) (s : St) : Prop where
  pos : 1 ≤ s.from_
  rows : s.rows = specRows chain (s.from_ - 1)
  blocks : s.blocks = (eventBlocks chain 1 (s.from_ - 1)).map (·.1)

theorem eventBlocks_eq_scan (chain : Chain) (f t : Nat) : eventBlocks chain f t = scan chain f t := rfl

/-- the refinement says which state it is: the one reached by replaying the events of the blocks `[1, n]` -/
theorem inv_iff {chain : Chain} {s : St} : Inv chain s ↔
    ∃ n, s = ⟨(scan chain 1 n).map (·.1), (scan chain 1 n).foldl applyEv [], n + 1⟩ := by
  constructor
  · obtain ⟨blocks, rows, from_⟩ := s
    intro ⟨(h1 : 1 ≤ from_), (h2 : rows = _), (h3 : blocks = _)⟩
    exact ⟨from_ - 1, by rw [h2, h3, Nat.sub_add_cancel h1]; rfl⟩
  · rintro ⟨n, rfl⟩
    exact ⟨Nat.succ_pos _, rfl, rfl⟩

theorem processBlock_new {s : St} {bn : Nat} (ev : Option GEv) (h : bn ∉ s.blocks) :
    processBlock s bn ev =
      ({ s with blocks := s.blocks ++ [bn], rows := ev.elim s.rows fun e => applyEv s.rows (bn, e) }, .ok) := by
  unfold processBlock
  rw [if_neg (by simpa using h)]
  rcases ev with _ | _ | _ <;> rfl

/-- processing event blocks that keep the block table ascending: none of them is stored yet -/
theorem fold_process (bes : List (Nat × GEv)) (s : St) (h : (s.blocks ++ bes.map (·.1)).Pairwise (· < ·)) :
    bes.foldl (fun acc be => (processBlock acc be.1 (some be.2)).1) s =
      { s with rows := bes.foldl applyEv s.rows, blocks := s.blocks ++ bes.map (·.1) } := by
  induction bes generalizing s with
  | nil => simp
  | cons be rest ih =>
    rw [List.map_cons, List.append_cons] at h
    have hnew : be.1 ∉ s.blocks := fun hm =>
      Nat.lt_irrefl _ ((List.pairwise_append.mp (List.pairwise_append.mp h).1).2.2 _ hm _ (List.mem_singleton_self _))
    rw [List.foldl_cons, processBlock_new _ hnew, ih _ h]
    simp

theorem pollPP_inv {chain : Chain} {s : St} (tip : Nat) (inv : Inv chain s) : Inv chain (pollPP chain s tip) := by
  obtain ⟨n, rfl⟩ := inv_iff.mp inv
  unfold pollPP
  by_cases h : tip < n + 1
  · rw [if_pos h]
    exact inv
  · -- the stored blocks are those of `[1..n]`, the new ones those of `[n+1..tip]`
    have hsplit := scan_split (g := chain) (f := 1) (m := n) (t := tip) (Nat.succ_pos _)
      (Nat.le_of_succ_le (Nat.le_of_not_lt h))
    rw [if_neg h, eventBlocks_eq_scan, fold_process _ _ (by
      rw [← List.map_append, ← hsplit]
      exact List.pairwise_map.mpr scan_sorted)]
    exact inv_iff.mpr ⟨tip, by rw [hsplit, List.foldl_append, List.map_append]⟩

theorem init_inv (chain : Chain) : Inv chain {} := inv_iff.mpr ⟨0, rfl⟩

theorem pollPP_from (chain : Chain) (s : St) (tip : Nat) : (pollPP chain s tip).from_ = max s.from_ (tip + 1) := by
  fun_cases pollPP chain s tip
  · exact (Nat.max_eq_left (by omega)).symm
  · show tip + 1 = _
    exact (Nat.max_eq_right (by omega)).symm

/-- **C16 (table)**: after any sequence of polls — tips advancing by any amount, repeated or lagging tips — the
    table holds exactly the injected, not-removed GERs of all blocks up to the furthest tip seen -/
theorem C16_table (chain : Chain) (tips : List Nat) :
    let s := tips.foldl (pollPP chain) {}
    s.rows = specRows chain (s.from_ - 1) ∧ ∀ t ∈ tips, t < s.from_ := by
  intro s
  refine ⟨(List.foldlRecOn tips _ (init_inv chain) fun _ hs t _ => pollPP_inv t hs).rows, fun t ht => ?_⟩
  -- the poll of `t` puts the position above `t`, and later polls only raise it
  obtain ⟨pre, post, rfl⟩ := List.append_of_mem ht
  simp only [s, List.foldl_append, List.foldl_cons]
  refine List.foldlRecOn (motive := fun s : St => t < s.from_) post _ ?_ fun s hs a _ => ?_
  · rw [pollPP_from]
    exact Nat.le_max_right ..
  · rw [pollPP_from]
    exact Nat.lt_of_lt_of_le hs (Nat.le_max_left ..)

/-- the query's fold keeps the earlier row on a tie, as core's `List.minOn?` does -/
theorem firstAfter_eq (s : St) (x : Nat) :
    firstAfter s x = (s.rows.filter (fun r => r.idx ≥ x)).minOn? (·.idx) := by
  unfold firstAfter
  generalize s.rows.filter _ = l
  cases l with
  | nil => rfl
  | cons a l =>
    show l.foldl _ (some a) = some (l.foldl (minOn (·.idx)) a)
    induction l generalizing a with
    | nil => rfl
    | cons r l ih =>
      rw [List.foldl_cons, List.foldl_cons, ← ih]
      congr 1
      show (if r.idx < a.idx then some r else some a) = some (if a.idx ≤ r.idx then a else r)
      simp only [apply_ite some, ← Nat.not_le, ite_not]

/-- the query picks a row with the smallest index at or after `x`, and finds one whenever one exists -/
theorem firstAfter_spec (s : St) (x : Nat) :
    (∀ r, firstAfter s x = some r → r ∈ s.rows ∧ r.idx ≥ x ∧ ∀ r' ∈ s.rows, r'.idx ≥ x → r.idx ≤ r'.idx) ∧
    ((∃ r ∈ s.rows, r.idx ≥ x) → ∃ r, firstAfter s x = some r) := by
  rw [firstAfter_eq]
  have hmem : ∀ r, r ∈ s.rows.filter (fun r => r.idx ≥ x) ↔ r ∈ s.rows ∧ r.idx ≥ x := by simp
  constructor
  · intro r h
    obtain ⟨h1, h2⟩ := (hmem r).mp (List.minOn?_mem h)
    refine ⟨h1, h2, fun r' hr' hx => ?_⟩
    rw [← List.minOn_eq_of_minOn?_eq_some h]
    exact List.apply_minOn_le_of_mem ((hmem r').mpr ⟨hr', hx⟩)
  · intro ⟨r, hr, hx⟩
    exact Option.isSome_iff_exists.mp (List.isSome_minOn?_of_mem ((hmem r).mpr ⟨hr, hx⟩))

/-- **C16**: the query's answer after any polling history, in the property's own words -/
theorem C16_query (chain : Chain) (tips : List Nat) (x : Nat) :
    let s := tips.foldl (pollPP chain) {}
    (∀ r, firstAfter s x = some r →
        r ∈ specRows chain (s.from_ - 1) ∧ r.idx ≥ x ∧ ∀ r' ∈ specRows chain (s.from_ - 1), r'.idx ≥ x → r.idx ≤ r'.idx) ∧
    ((∃ r ∈ specRows chain (s.from_ - 1), r.idx ≥ x) → ∃ r, firstAfter s x = some r) := by
  intro s
  exact (C16_table chain tips).1 ▸ firstAfter_spec s x

/-- non-vacuity: insert in block 3 and 7, tips 5 → 9 (the blocks between polls are not skipped) -/
example : (([5, 9].foldl (pollPP (fun b => if b = 3 then some (.insert 1 10) else if b = 7 then some (.insert 2 11) else none)) {}).rows.map (·.ger)) = [1, 2] := by
  decide

theorem lpb_eq (s : St) : lpb s = s.blocks.max?.getD 0 := by rw [lpb, List.foldl_max, Nat.zero_max]

/-- moving the downloader's position down to just after the last stored block keeps the refinement
    (what a restart does, and the last step of a reorg): no block between the two carries an event -/
theorem reposition_inv {c : Chain} {s : St} (inv : Inv c s) : Inv c { s with from_ := lpb s + 1 } := by
  obtain ⟨n, rfl⟩ := inv_iff.mp inv
  generalize hm : lpb _ = m
  rw [lpb_eq] at hm
  have hle : m ≤ n := by
    rw [← hm]
    cases h : ((scan c 1 n).map (·.1)).max? with
    | none => exact Nat.zero_le _
    | some k =>
      obtain ⟨y, hy, rfl⟩ := List.mem_map.mp (List.max?_mem h)
      exact (mem_scan.mp hy).2.1
  have hnone : scan c (m + 1) n = [] := by
    rw [List.eq_nil_iff_forall_not_mem]
    intro y hy
    have h := mem_scan.mp hy
    have hb : y.1 ∈ (scan c 1 n).map (·.1) := List.mem_map.mpr ⟨y, mem_scan.mpr ⟨Nat.le_trans (Nat.succ_pos _) h.1, h.2⟩, rfl⟩
    exact Nat.not_succ_le_self _ (Nat.le_trans h.1 (hm ▸ List.le_max?_getD_of_mem hb))
  exact inv_iff.mpr ⟨m, by rw [scan_split (m := m) (t := n) (Nat.succ_pos _) hle, hnone, List.append_nil]⟩

/-- the chain after a reorg at `first`: unchanged below, `c'` from there on -/
def forkChain (c : Chain) (first : Nat) (c' : Chain) : Chain := fun b => if b < first then c b else c' b

/-- dropping the rows of the blocks from `first` on commutes with replaying the events, as long as no dropped block
    carried a removal: an insertion there is dropped with its row, below `first` both sides do the same -/
theorem filter_fold_applyEv (first : Nat) (bes : List (Nat × GEv)) (rows : List Row)
    (h : ∀ be ∈ bes, first ≤ be.1 → ∀ g, be.2 ≠ .remove g) :
    (bes.foldl applyEv rows).filter (fun r => r.blockNum < first) =
      (bes.filter (fun be => be.1 < first)).foldl applyEv (rows.filter (fun r => r.blockNum < first)) := by
  induction bes generalizing rows with
  | nil => rfl
  | cons be rest ih =>
    rw [List.foldl_cons, ih _ fun b hb => h b (List.mem_cons_of_mem _ hb), List.filter_cons]
    have hbe := h be (List.mem_cons_self ..)
    obtain ⟨bn, _ | g⟩ := be <;> by_cases hlt : bn < first <;>
      simp [applyEv, hlt, List.filter_filter, Bool.and_comm] at hbe ⊢

theorem scan_filter_fork (c c' : Chain) (first t : Nat) :
    (scan c 1 t).filter (fun be => be.1 < first) = scan (forkChain c first c') 1 (min t (first - 1)) := by
  -- `[1..t]` splits at `m = min t (first - 1)`: what lies below `first` is `[1..m]`
  have hlo : ∀ b, 1 ≤ b → b ≤ min t (first - 1) → b < first := by omega
  have hhi : ∀ b, min t (first - 1) + 1 ≤ b → b ≤ t → ¬ b < first := by omega
  rw [scan_split (Nat.succ_pos _) (Nat.min_le_left ..), List.filter_append, List.filter_eq_self.mpr,
    List.filter_eq_nil_iff.mpr, List.append_nil]
  · exact scan_congr fun b h1 h2 => by rw [forkChain, if_pos (hlo b h1 h2)]
  · intro y hy
    have := mem_scan.mp hy
    exact fun h => hhi _ this.1 this.2.1 (of_decide_eq_true h)
  · intro y hy
    have := mem_scan.mp hy
    exact decide_eq_true (hlo _ this.1 this.2.1)

/-- **a reorg keeps the refinement** — provided none of the dropped, already processed blocks carried a REMOVAL
    (the excluded case is known finding F4: the row deleted by that removal does not come back) -/
theorem reorg_inv {c c' : Chain} {s : St} {first : Nat} (inv : Inv c s)
    (hnorm : ∀ b, first ≤ b → b ≤ s.from_ - 1 → ∀ g, c b ≠ some (.remove g)) :
    Inv (forkChain c first c') (reorg s first) := by
  obtain ⟨n, rfl⟩ := inv_iff.mp inv
  refine reposition_inv (s := ⟨_, _, min n (first - 1) + 1⟩) (inv_iff.mpr ⟨min n (first - 1), ?_⟩)
  dsimp only
  rw [← scan_filter_fork, filter_fold_applyEv, List.filter_map]
  · rfl
  · intro be hbe hf g hg
    have := mem_scan.mp hbe
    exact hnorm be.1 hf this.2.1 g (by rw [this.2.2, hg])

inductive GOp where
  | poll (tip : Nat)
  | restart
  | reorg (first : Nat) (newChain : Chain)    -- blocks ≥ first are replaced by those of `newChain`

def stepOp (cs : Chain × St) : GOp → Chain × St
  | .poll t => (cs.1, pollPP cs.1 cs.2 t)
  | .restart => (cs.1, restart cs.2)
  | .reorg f c' => (forkChain cs.1 f c', reorg cs.2 f)

/-- the one excluded situation (known finding F4): a reorg that drops an already processed REMOVAL -/
def OpOK (cs : Chain × St) : GOp → Prop
  | .reorg f _ => ∀ b, f ≤ b → b ≤ cs.2.from_ - 1 → ∀ g, cs.1 b ≠ some (.remove g)
  | _ => True

def OpsOK : Chain × St → List GOp → Prop
  | _, [] => True
  | cs, op :: rest => OpOK cs op ∧ OpsOK (stepOp cs op) rest

theorem runOps_inv {ops : List GOp} {cs : Chain × St} (inv : Inv cs.1 cs.2) (hok : OpsOK cs ops) :
    Inv (ops.foldl stepOp cs).1 (ops.foldl stepOp cs).2 := by
  induction ops generalizing cs with
  | nil => exact inv
  | cons op rest ih =>
    refine ih ?_ hok.2
    cases op with
    | poll t => exact pollPP_inv t inv
    | restart => exact reposition_inv inv
    | reorg f c' => exact reorg_inv inv hok.1

/-- **C16 (table, full history)**: after ANY sequence of polls (tips advancing by any amount), restarts of the node at any
    point and reorgs at any block — as long as no reorg drops an already processed removal (F4) — the table holds exactly
    the injected, not-removed GERs of the CURRENT chain's blocks up to the downloader's position. -/
theorem C16_table_ops (c0 : Chain) (ops : List GOp) (hok : OpsOK (c0, {}) ops) :
    let cs := ops.foldl stepOp (c0, {})
    cs.2.rows = specRows cs.1 (cs.2.from_ - 1) :=
  (runOps_inv (init_inv c0) hok).rows

/-- **C16 (query, full history)** -/
theorem C16_query_ops (c0 : Chain) (ops : List GOp) (hok : OpsOK (c0, {}) ops) (x : Nat) :
    let cs := ops.foldl stepOp (c0, {})
    (∀ r, firstAfter cs.2 x = some r →
        r ∈ specRows cs.1 (cs.2.from_ - 1) ∧ r.idx ≥ x ∧ ∀ r' ∈ specRows cs.1 (cs.2.from_ - 1), r'.idx ≥ x → r.idx ≤ r'.idx) ∧
    ((∃ r ∈ specRows cs.1 (cs.2.from_ - 1), r.idx ≥ x) → ∃ r, firstAfter cs.2 x = some r) := by
  intro cs
  exact C16_table_ops c0 ops hok ▸ firstAfter_spec cs.2 x

/-- the excluded case is real (F4): insertion in block 1, removal in block 2, both processed, reorg of block 2 — the row
    does not come back although the current chain still has the insertion and no removal -/
theorem C16_reorg_false_with_removal :
    let c0 : Chain := fun b => if b = 1 then some (.insert 7 0) else if b = 2 then some (.remove 7) else none
    let cs := [GOp.poll 2, GOp.reorg 2 (fun _ => none)].foldl stepOp (c0, {})
    cs.2.rows = [] ∧ specRows cs.1 (cs.2.from_ - 1) = [{ blockNum := 1, ger := 7, idx := 0 }] := by
  decide

/-- non-vacuity: a history with a restart and a reorg that meets the hypothesis -/
def exChain : Chain := fun b => if b = 2 then some (.insert 1 10) else if b = 5 then some (.insert 2 11) else none
def exOps : List GOp := [.poll 3, .restart, .poll 6, .reorg 5 (fun b => if b = 6 then some (.insert 3 12) else none), .poll 8]
example : OpsOK (exChain, {}) exOps := by
  -- the only reorg comes while the chain is still `exChain`, which has no removal at all
  refine ⟨trivial, trivial, trivial, fun b _ _ g => ?_, trivial, trivial⟩
  show (if b = 2 then some (.insert 1 10) else if b = 5 then some (.insert 2 11) else none) ≠ some (GEv.remove g)
  split
  · nofun
  · split <;> nofun
example : ((exOps.foldl stepOp (exChain, {})).2.rows.map (fun r => (r.blockNum, r.ger))) = [(2, 1), (6, 3)] := by decide

/-! ### FEP mode: the downloader reads the L2 GER map against the L1 info leaves -/

/-- one FEP poll: the tip and what the L2 GER map answers at that moment -/
abbrev FPoll := Nat × (Nat → Bool)

def runFEP (leaves : List (Nat × Nat)) (polls : List FPoll) (f : FSt) : FSt :=
  polls.foldl (fun acc p => pollFEP leaves p.2 acc p.1) f

/-- what a row of the FEP table means: it is an L1 info leaf that the L2 GER map held when the block was polled -/
def FepRowOK (leaves : List (Nat × Nat)) (polls : List FPoll) (r : Row) : Prop :=
  ∃ p ∈ polls, p.1 = r.blockNum ∧ (r.idx, r.ger) ∈ leaves ∧ p.2 r.ger = true

structure FInv (leaves : List (Nat × Nat)) (polls : List FPoll) (f : FSt) : Prop where
  rows : ∀ r ∈ f.st.rows, FepRowOK leaves polls r
  below : ∀ b ∈ f.st.blocks, b ≤ f.st.from_

theorem pollFEP_new {leaves : List (Nat × Nat)} {inj : Nat → Bool} {f : FSt} {tip : Nat} (h : f.st.from_ < tip)
    (hnew : tip ∉ f.st.blocks) :
    pollFEP leaves inj f tip = { f with st := { blocks := f.st.blocks ++ [tip], from_ := tip, rows := f.st.rows ++
      ((leaves.filter (fun l => decide (l.1 ≥ f.nextIndex) && inj l.2)).getLast?.map
        fun l => { blockNum := tip, ger := l.2, idx := l.1 }).toList } } := by
  rw [pollFEP, if_neg (by omega)]
  dsimp only
  rw [processBlock_new _ hnew]
  cases (leaves.filter (fun l => decide (l.1 ≥ f.nextIndex) && inj l.2)).getLast? <;> simp [applyEv]

theorem pollFEP_inv {leaves : List (Nat × Nat)} {polls : List FPoll} {p : FPoll} {f : FSt} (hp : p ∈ polls)
    (inv : FInv leaves polls f) : FInv leaves polls (pollFEP leaves p.2 f p.1) := by
  by_cases h : p.1 ≤ f.st.from_
  · rw [pollFEP, if_pos h]
    exact inv
  · have hlt := Nat.lt_of_not_le h
    rw [pollFEP_new hlt fun hm => h (inv.below _ hm)]
    refine ⟨fun r hr => ?_, forall_mem_concat.mpr
      ⟨fun b hb => Nat.le_of_lt (Nat.lt_of_le_of_lt (inv.below b hb) hlt), Nat.le_refl _⟩⟩
    rcases List.mem_append.mp hr with hr | hr
    · exact inv.rows r hr
    · obtain ⟨l, hl, rfl⟩ := Option.map_eq_some_iff.mp (Option.mem_toList.mp hr)
      have hmem := List.mem_filter.mp (List.mem_of_getLast? hl)
      exact ⟨p, hp, rfl, hmem.1, (Bool.and_eq_true_iff.mp hmem.2).2⟩

/-- **C16 (FEP, soundness)**: after any sequence of polls of the FEP downloader — any tips, the L2 GER map answering
    differently at every poll — every row of the index is an L1 info leaf which the L2 GER map held at the poll of
    the block the row is filed under. Nothing the L2 contract never held gets into the index. -/
theorem C16_fep_sound (leaves : List (Nat × Nat)) (polls : List FPoll) :
    ∀ r ∈ (runFEP leaves polls {}).st.rows, FepRowOK leaves polls r :=
  (List.foldlRecOn polls _ (⟨nofun, nofun⟩ : FInv leaves polls {}) fun _ hf _ hp => pollFEP_inv hp hf).rows

/-- **C16 (FEP, choice)**: the row filed at a poll is the LAST injected leaf at or after the downloader's start index
    (with the leaves in index order: the greatest injected index) -/
theorem C16_fep_latest (leaves : List (Nat × Nat)) (inj : Nat → Bool) (f : FSt) (tip : Nat) (h : f.st.from_ < tip)
    (hnew : tip ∉ f.st.blocks) :
    (pollFEP leaves inj f tip).st.rows = f.st.rows ++
      (match (leaves.filter (fun l => decide (l.1 ≥ f.nextIndex) && inj l.2)).getLast? with
       | some l => [{ blockNum := tip, ger := l.2, idx := l.1 }]
       | none => []) := by
  rw [pollFEP_new h hnew]
  cases (leaves.filter (fun l => decide (l.1 ≥ f.nextIndex) && inj l.2)).getLast? <;> rfl

/-- non-vacuity: two polls, the GER map learns leaf 1 between them -/
example : ((runFEP [(0, 100), (1, 101)] [(5, fun g => g == 100), (9, fun g => g == 100 || g == 101)] {}).st.rows.map
    (fun r => (r.blockNum, r.ger, r.idx))) = [(5, 100, 0), (9, 101, 1)] := by decide

/-- what the model takes from the source (regenerated on every run): inside the injected-GER processor's block
    transaction every failing statement leaves the function with the error (the only locally handled error is the
    rollback's own), and the transaction is rolled back unless the commit succeeded — on this rests that a poll during which a
    storage statement fails once and the driver retries (op `poll!` of harness/sc_gersync.go) ends like a plain `poll` -/
theorem C16_code_facts :
    Gen.SyncFacts.errHandledLocally_gerProcessor = ["ProcessBlock:tx.Rollback"] ∧
    Gen.SyncFacts.rollbackGuard_ger = "FLAG" ∧
    Gen.SyncFacts.rollbackFlagFlow_ger = ["FLAG := true", "Commit", "FLAG = false"] ∧
    -- `Reorg` (and every other writer) reports its failures: the only error turned into success is "no block yet"
    Gen.SyncFacts.errToNil_gerProcessor = ["GetLastProcessedBlock:?"] := by
  and_intros <;> rfl

end Aggkit.LastGER
