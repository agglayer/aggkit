import AggkitModel.Proofs.CertRange
import AggkitModel.Proofs.GenPrelude
import AggkitModel.Generated.BlockRange
import AggkitModel.Generated.Limiter
/-
C17 — cutting a certificate's block range never drops, duplicates or reorders events; range arithmetic
never reports a gap between touching or overlapping ranges.
The block-range functions are the REGENERATED translation of aggsender/types/block_range.go (uint64
wrap-around included): these theorems are re-checked against what the Go source says on every run.
`Generated/Limiter.lean` is imported so that this module's build elaborates the regenerated limiter; no theorem here
is about it.
-/
namespace Aggkit.C17
open Aggkit.GenPrelude Aggkit.Gen.BlockRange Aggkit.CertRange

theorem getBlockMinusOne_eq {F : Nat} (h : F < 2^64) : getBlockMinusOne F = F - 1 := by
  unfold getBlockMinusOne
  by_cases h0 : F > 0
  · rw [if_pos (decide_eq_true h0), sub64_of_le h0 h]
  · rw [if_neg (by simpa using h0), Nat.eq_zero_of_not_pos h0]

/-- a well-formed uint64 block range -/
def wf (a : BlockRange) : Prop := a.FromBlock ≤ a.ToBlock ∧ a.ToBlock < 2^64

/-- the two ranges overlap or are adjacent (in unbounded arithmetic) -/
def touchOrOverlap (a b : BlockRange) : Prop := a.ToBlock + 1 ≥ b.FromBlock ∧ b.ToBlock + 1 ≥ a.FromBlock

/-- `CountBlocks` characterised on every uint64 range, including the two ambiguous points:
    `[0,0]` counts as empty (sentinel) and the full range `[0, 2^64-1]` wraps to 0 -/
theorem C17_count (a : BlockRange) (ha : wf a) :
    BlockRange_CountBlocks a =
      if a.FromBlock = 0 ∧ a.ToBlock = 0 then 0
      else if a.FromBlock = 0 ∧ a.ToBlock = 2^64 - 1 then 0
      else a.ToBlock - a.FromBlock + 1 := by
  obtain ⟨hle, hlt⟩ := ha
  unfold BlockRange_CountBlocks
  by_cases h0 : a.FromBlock = 0 ∧ a.ToBlock = 0
  · rw [if_pos h0, if_pos (by simpa using h0)]
  rw [if_neg h0, if_neg (by simpa using h0), if_neg (by simpa using hle), sub64_of_le hle hlt]
  by_cases h1 : a.FromBlock = 0 ∧ a.ToBlock = 2^64 - 1
  · rw [if_pos h1, h1.1, h1.2]
    rfl
  · rw [if_neg h1, add64_of_lt (by omega)]

theorem gap_eq {a b : BlockRange} (ha : wf a) (hb : wf b) :
    BlockRange_Gap a b =
      if a.ToBlock + 1 ≥ b.FromBlock ∧ b.ToBlock + 1 ≥ a.FromBlock then {}
      else if a.ToBlock < b.FromBlock then { FromBlock := a.ToBlock + 1, ToBlock := b.FromBlock - 1 }
      else { FromBlock := b.ToBlock + 1, ToBlock := a.FromBlock - 1 } := by
  have hfa := Nat.lt_of_le_of_lt ha.1 ha.2
  have hfb := Nat.lt_of_le_of_lt hb.1 hb.2
  unfold BlockRange_Gap
  rw [getBlockMinusOne_eq hfa, getBlockMinusOne_eq hfb]
  have hc : (decide (a.ToBlock ≥ b.FromBlock - 1) && decide (b.ToBlock ≥ a.FromBlock - 1)) = true ↔
      a.ToBlock + 1 ≥ b.FromBlock ∧ b.ToBlock + 1 ≥ a.FromBlock := by
    rw [Bool.and_eq_true, decide_eq_true_eq, decide_eq_true_eq]
    exact and_congr Nat.sub_le_iff_le_add Nat.sub_le_iff_le_add
  by_cases h : a.ToBlock + 1 ≥ b.FromBlock ∧ b.ToBlock + 1 ≥ a.FromBlock
  · rw [if_pos h, if_pos (hc.2 h)]
  rw [if_neg h, if_neg (mt hc.1 h)]
  by_cases hlt : a.ToBlock < b.FromBlock
  · rw [if_pos hlt, if_pos (decide_eq_true hlt), add64_of_lt (Nat.lt_of_le_of_lt hlt hfb),
      sub64_of_le (Nat.zero_lt_of_lt hlt) hfb]
  · rw [if_neg hlt, if_neg (by simpa using hlt), add64_of_lt (by omega)]

/-- **no gap is ever reported between touching or overlapping ranges** — all uint64 endpoints, 0 and 2^64-1 included -/
theorem C17_gap_sound (a b : BlockRange) (ha : wf a) (hb : wf b) (h : touchOrOverlap a b) :
    BlockRange_IsEmpty (BlockRange_Gap a b) = true := by
  unfold touchOrOverlap at h
  rw [gap_eq ha hb, if_pos h]
  rfl

/-- otherwise the reported gap is exactly the blocks strictly between the two ranges, and it is not empty -/
theorem C17_gap_exact (a b : BlockRange) (ha : wf a) (hb : wf b) (h : ¬ touchOrOverlap a b) :
    BlockRange_Gap a b =
      (if a.ToBlock < b.FromBlock then { FromBlock := a.ToBlock + 1, ToBlock := b.FromBlock - 1 }
       else { FromBlock := b.ToBlock + 1, ToBlock := a.FromBlock - 1 }) ∧
    BlockRange_IsEmpty (BlockRange_Gap a b) = false ∧
    (BlockRange_Gap a b).FromBlock ≤ (BlockRange_Gap a b).ToBlock := by
  unfold wf touchOrOverlap at *
  rw [gap_eq ha hb, if_neg h]
  refine ⟨rfl, ?_⟩
  -- either way the gap is the blocks strictly between two block numbers `x + 1 < y`
  have hg (x y : Nat) (hxy : x + 1 < y) (hy : y < 2^64) :
      BlockRange_IsEmpty { FromBlock := x + 1, ToBlock := y - 1 } = false ∧ x + 1 ≤ y - 1 := by
    have hle := Nat.le_sub_one_of_lt hxy
    rw [BlockRange_IsEmpty, C17_count _ ⟨hle, Nat.lt_of_le_of_lt (Nat.sub_le ..) hy⟩,
      if_neg fun h => Nat.succ_ne_zero x h.1, if_neg fun h => Nat.succ_ne_zero x h.1]
    exact ⟨rfl, hle⟩
  by_cases hlt : a.ToBlock < b.FromBlock
  · rw [if_pos hlt]
    exact hg _ _ (by omega) (Nat.lt_of_le_of_lt hb.1 hb.2)
  · rw [if_neg hlt]
    exact hg _ _ (by omega) (Nat.lt_of_le_of_lt ha.1 ha.2)

/-! ### Range / limitCertSize / AdaptCertificate (hand model, tied by the `rangearith` correspondence) -/

/-- `Range` keeps exactly the events of the requested blocks, in their original order, and nothing else changes -/
theorem C17_range_exact (p q : Params) (f t : Nat) (hp : WFp p) (h : range p f t = some q) :
    q.from_ = f ∧ q.to_ = t ∧ q.bridges = p.bridges.filter (inRange f t) ∧
    q.claims = p.claims.filter (inRange f t) ∧ q.fep = p.fep ∧ q.retry = p.retry ∧
    p.from_ ≤ f ∧ t ≤ p.to_ ∧ f ≤ t := by
  rw [range_eq hp] at h
  split at h
  · next c =>
    cases h
    exact ⟨rfl, rfl, rfl, rfl, rfl, rfl, c⟩
  · cases h

theorem range_wf (p q : Params) (f t : Nat) (hp : WFp p) (h : range p f t = some q) : WFp q := by
  obtain ⟨a1, a2, a3, a4, _, _, _, _, a9⟩ := C17_range_exact p q f t hp h
  rw [WFp, a1, a2, a3, a4]
  exact ⟨a9, fun e he => (List.mem_filter.mp he).2, fun e he => (List.mem_filter.mp he).2⟩

/-- **limitCertSize**: never fails on well-formed input, keeps the first block, ends at the LARGEST
    block whose prefix fits (every longer prefix is over the limit), contains exactly the events of the
    kept blocks in their original order, and exceeds the limit only as a single block. Holds for ANY size
    function (in particular for the float64 `EstimatedSize`). -/
theorem C17_limit (size : Params → Nat) (maxSize : Nat) (p : Params) (hp : WFp p) :
    ∃ q, limitCertSize size maxSize p = some q ∧
      q.from_ = p.from_ ∧ q.from_ ≤ q.to_ ∧ q.to_ ≤ p.to_ ∧
      q.bridges = p.bridges.filter (inRange p.from_ q.to_) ∧ q.claims = p.claims.filter (inRange p.from_ q.to_) ∧
      (maxSize = 0 ∨ size q ≤ maxSize ∨ q.to_ = q.from_) ∧
      (∀ t, q.to_ < t → t ≤ p.to_ → maxSize ≠ 0 ∧ size (cutTo p t) > maxSize) := by
  obtain ⟨t, h1, h2, h3, h4, h5⟩ := limitCertSize_spec size maxSize hp
  exact ⟨cutTo p t, h1, rfl, h2, h3, rfl, rfl, h4,
    fun t' a b => ⟨(not_or.mp (h5 t' a b)).1, Nat.lt_of_not_le (not_or.mp (h5 t' a b)).2⟩⟩

/-- **last-block limit**: when the limiter cuts, the result is the prefix ending exactly at the configured block -/
theorem C17_clamp (maxL2 : Nat) (allow req : Bool) (p q : Params) (_hp : WFp p)
    (h : adapt maxL2 allow req p = .ok q) :
    (q = p ∧ (maxL2 = 0 ∨ p.to_ ≤ maxL2)) ∨
    (maxL2 ≠ 0 ∧ p.to_ > maxL2 ∧ p.from_ ≤ maxL2 ∧ q = cutTo p maxL2 ∧ (p.retry = true → allow = true)) := by
  revert h
  fun_cases adapt maxL2 allow req p <;> intro h
  case case1 h0 => exact .inl ⟨(Except.ok.inj h).symm, .inl h0⟩
  case case2 h0 h1 => exact .inl ⟨(Except.ok.inj h).symm, .inr h1⟩
  case case7 h0 h1 h2 _ h4 q' hr _ | case10 h0 h1 h2 _ h4 q' hr _ _ =>
    -- below the guards the two answering exits return what `range` returned, which is the cut
    rw [range_from_eq_cutTo _hp (Nat.le_of_not_lt h4) (Nat.le_of_not_le h1)] at hr
    cases hr
    exact .inr ⟨h0, Nat.lt_of_not_le h1, Nat.le_of_not_lt h4, (Except.ok.inj h).symm, fun hr => by simpa [hr] using h2⟩
  all_goals cases h

example : WFp { from_ := 1, to_ := 10, bridges := [⟨3, 0, 0⟩, ⟨7, 5, 1⟩], claims := [⟨7, 0, 2⟩] } := by
  simp [WFp, inRange]

example : wf { FromBlock := 10, ToBlock := 2^64 - 1 } ∧ wf { FromBlock := 5, ToBlock := 20 } ∧
    touchOrOverlap { FromBlock := 5, ToBlock := 20 } { FromBlock := 10, ToBlock := 2^64 - 1 } := by
  simp [wf, touchOrOverlap]

end Aggkit.C17
