import AggkitModel.Model.Epoch
/-
C18 — each epoch is announced exactly once, at the first block past the threshold.
`run` is the code (a counter `waitingForEpoch`), `spec` is the property (a set of announced
epochs: announce at the first qualifying block of an epoch, never again). They coincide on every
strictly increasing block sequence at or after the starting block, for every configuration.
-/
namespace Aggkit.Epoch

theorem epoch_mono (c : Cfg) {a b : Nat} (ha : c.S ≤ a) (hab : a ≤ b) :
    epochNumber c a ≤ epochNumber c b := by
  unfold epochNumber
  rw [if_neg (by omega), if_neg (by omega)]
  exact Nat.add_le_add_left (Nat.div_le_div_right (by omega)) 1

theorem step_eq (c : Cfg) {st : St} {b : Nat} (hS : c.S ≤ b) (hl : st.lastBlockSeen ≤ b) :
    step c st b =
      if reached c b = true ∧ st.waitingForEpoch ≤ epochNumber c b then
        (⟨b, epochNumber c b + 1⟩, some (epochNumber c b, endBlockEpoch c (epochNumber c b) - b))
      else (⟨b, st.waitingForEpoch⟩, none) := by
  fun_cases step c st b
  case case3 hc => exact (if_pos (by simpa [Nat.lt_succ_iff] using hc)).symm
  case case4 hc => exact (if_neg (by simpa [Nat.lt_succ_iff] using hc)).symm
  all_goals omega

/-- the refinement lemma: the counter stands for the set `done` on the epochs of all blocks still to come.
    Weakly increasing sequences are enough (a block delivered twice is silent the second time). -/
theorem runFrom_eq_spec (c : Cfg) {bs : List Nat} {st : St} {done : Nat → Bool} (hs : bs.Pairwise (· ≤ ·))
    (hall : ∀ b ∈ bs, c.S ≤ b ∧ st.lastBlockSeen ≤ b ∧
      done (epochNumber c b) = decide (epochNumber c b < st.waitingForEpoch)) :
    runFrom c st bs = spec c done bs := by
  induction bs generalizing st done with
  | nil => rfl
  | cons b bs ih =>
    obtain ⟨hS, hl, hd⟩ := hall b (List.mem_cons_self ..)
    obtain ⟨hle, hs'⟩ := List.pairwise_cons.mp hs
    have hfut b' (hb' : b' ∈ bs) := hall b' (List.mem_cons_of_mem _ hb')
    -- the specification's test and the notifier's are the same test
    have hcond : (reached c b && !done (epochNumber c b)) = true ↔
        reached c b = true ∧ st.waitingForEpoch ≤ epochNumber c b := by
      rw [hd, Bool.and_eq_true, Bool.not_eq_true', decide_eq_false_iff_not, Nat.not_lt]
    rw [runFrom, step_eq c hS hl, spec]
    by_cases h : reached c b = true ∧ st.waitingForEpoch ≤ epochNumber c b
    · rw [if_pos h, if_pos (hcond.2 h)]
      refine congrArg _ (ih hs' fun b' hb' => ⟨(hfut b' hb').1, hle b' hb', ?_⟩)
      have := epoch_mono c hS (hle b' hb')
      rw [(hfut b' hb').2.2, Bool.eq_iff_iff]
      simp only [Bool.or_eq_true, decide_eq_true_eq, beq_iff_eq]
      omega
    · rw [if_neg h, if_neg (mt hcond.1 h)]
      exact ih hs' fun b' hb' => ⟨(hfut b' hb').1, hle b' hb', (hfut b' hb').2.2⟩

/-- **C18** (full strength after fix a14873a): for every configuration and every strictly increasing
    block sequence starting at or after the starting block — any gaps, any length — the notifier
    announces exactly the epochs the specification announces, at the same blocks. -/
theorem C18_exact (c : Cfg) (bs : List Nat) (hs : bs.Pairwise (· < ·)) (hS : ∀ b ∈ bs, c.S ≤ b) :
    run c bs = spec c (fun _ => false) bs :=
  runFrom_eq_spec c (hs.imp Nat.le_of_lt) fun b hb =>
    ⟨hS b hb, hS b hb, (decide_eq_false (Nat.not_lt.2 (epoch_mono c (Nat.le_refl _) (hS b hb)))).symm⟩

theorem spec_sound (c : Cfg) {bs : List Nat} {done : Nat → Bool} {x : Nat × Nat} (hx : x ∈ spec c done bs) :
    x.1 ∈ bs ∧ reached c x.1 = true ∧ x.2 = epochNumber c x.1 ∧ done x.2 = false := by
  fun_induction spec c done bs
  case case1 => cases hx
  case case2 done b bs hc ih =>
    rw [Bool.and_eq_true, Bool.not_eq_true'] at hc
    rcases List.mem_cons.mp hx with rfl | h
    · exact ⟨List.mem_cons_self .., hc.1, rfl, hc.2⟩
    · obtain ⟨a1, a2, a3, a4⟩ := ih h
      exact ⟨List.mem_cons_of_mem _ a1, a2, a3, (Bool.or_eq_false_iff.mp a4).1⟩
  case case3 ih =>
    obtain ⟨a1, a⟩ := ih hx
    exact ⟨List.mem_cons_of_mem _ a1, a⟩

theorem spec_complete (c : Cfg) {bs : List Nat} {done : Nat → Bool} {b : Nat}
    (hb : b ∈ bs) (hr : reached c b = true) (hd : done (epochNumber c b) = false) :
    epochNumber c b ∈ (spec c done bs).map (·.2) := by
  fun_induction spec c done bs
  case case1 => cases hb
  case case2 done a bs hc ih =>
    rw [List.map_cons, List.mem_cons]
    by_cases he : epochNumber c b = epochNumber c a
    · exact .inl he
    · rcases List.mem_cons.mp hb with rfl | h
      · exact absurd rfl he
      · exact .inr (ih h (by simp [hd, he]))
  case case3 done a bs hc ih =>
    rcases List.mem_cons.mp hb with rfl | h
    · simp [hr, hd] at hc
    · exact ih h hd

/-- on a weakly increasing block sequence the announced epochs strictly increase: a later announcement is at a
    later block, so not in an earlier epoch, and not in the same one, which is in `done` by then -/
theorem spec_increasing (c : Cfg) {bs : List Nat} (hs : bs.Pairwise (· ≤ ·)) (hS : ∀ b ∈ bs, c.S ≤ b)
    (done : Nat → Bool) : ((spec c done bs).map (·.2)).Pairwise (· < ·) := by
  fun_induction spec c done bs
  case case1 => exact List.Pairwise.nil
  case case2 done b bs _ ih =>
    obtain ⟨hle, hs'⟩ := List.pairwise_cons.mp hs
    refine List.pairwise_cons.mpr ⟨fun e he => ?_, ih hs' fun b' hb' => hS b' (List.mem_cons_of_mem _ hb')⟩
    obtain ⟨x, hx, rfl⟩ := List.mem_map.mp he
    obtain ⟨h1, _, h3, h4⟩ := spec_sound c hx
    have := epoch_mono c (hS b (List.mem_cons_self ..)) (hle _ h1)
    simp only [Bool.or_eq_false_iff, beq_eq_false_iff_ne] at h4
    show epochNumber c b < x.2
    omega
  case case3 ih => exact ih hs.of_cons fun b' hb' => hS b' (List.mem_cons_of_mem _ hb')

/-- announced epochs strictly increase -/
theorem C18_increasing (c : Cfg) (bs : List Nat) (hs : bs.Pairwise (· < ·)) (hS : ∀ b ∈ bs, c.S ≤ b) :
    ((run c bs).map (·.2)).Pairwise (· < ·) := by
  rw [C18_exact c bs hs hS]
  exact spec_increasing c (hs.imp Nat.le_of_lt) hS _

/-- corollaries in the property's own words -/
theorem C18_exactly_once (c : Cfg) (bs : List Nat) (hs : bs.Pairwise (· < ·)) (hS : ∀ b ∈ bs, c.S ≤ b) :
    ((run c bs).map (·.2)).Nodup ∧
    (∀ x ∈ run c bs, x.1 ∈ bs ∧ reached c x.1 = true ∧ x.2 = epochNumber c x.1) ∧
    (∀ b ∈ bs, reached c b = true → epochNumber c b ∈ (run c bs).map (·.2)) := by
  refine ⟨(C18_increasing c bs hs hS).imp Nat.ne_of_lt, ?_⟩
  rw [C18_exact c bs hs hS]
  exact ⟨fun x hx => ⟨(spec_sound c hx).1, (spec_sound c hx).2.1, (spec_sound c hx).2.2.1⟩,
    fun b hb hr => spec_complete c hb hr rfl⟩

/-- re-delivering the block last seen never notifies a second time (what the fix relies on) -/
theorem step_same_block_silent (c : Cfg) (st : St) (b : Nat) :
    (step c (step c st b).1 b).2 = none ∨ (step c st b).2 = none := by
  fun_cases step c st b
  -- the one exit that announces: after it the counter stands one past this block's epoch
  case case3 =>
    exact .inl (by rw [step_eq c (Nat.le_of_not_lt ‹¬b < c.S›) (Nat.le_refl b), if_neg fun h' => Nat.not_succ_le_self _ h'.2])
  all_goals exact .inr rfl

/-- non-vacuity: a concrete run with skipped epochs, and the starting block itself announced at 0% -/
example : run ⟨10, 4, 50⟩ [10, 11, 12, 13, 24, 25, 33] = [(12, 1), (24, 4), (33, 6)] := by decide
example : run ⟨10, 4, 0⟩ [10, 14, 15, 22] = [(10, 1), (14, 2), (22, 4)] := by decide

end Aggkit.Epoch
