import AggkitModel.Model.GlobalIndex
import AggkitModel.Proofs.Bytes
/-
C19 — global indexes are encoded and decoded consistently everywhere.
The property theorems, with the closed forms of `generate` and of the 9-byte test they are read off from (the byte-codec
lemmas are in Proofs/Bytes). All quantifiers are unbounded: every uint32 pair, both flags, every canonical on-chain value.
-/
namespace Aggkit.GlobalIndex
open Aggkit

private theorem p64 : (256:Nat)^8 = 18446744073709551616 := by decide
private theorem p72 : (256:Nat)^9 = 4722366482869645213696 := by decide

theorem generate_eq (m : Bool) (r l : Nat) :
    generate m r l = (if m then 2^64 else r % 2^32 * 2^32) + l % 2^32 := by
  unfold generate generateBytes
  cases m
  · -- `rw` closes what is left (`256^4` against `2^32`) by evaluation
    rw [if_neg Bool.false_ne_true, if_neg Bool.false_ne_true, ofBE_append, ofBE_fillBE, ofBE_fillBE, fillBE_length]
  · rw [if_pos rfl, if_pos rfl, ofBE_append, ofBE_append, ofBE_fillBE, ofBE_fillBE, fillBE_length, fillBE_length,
      ofBE_beBytes]

/-- the bridge contract's bit layout: `mainnetFlag·2^64 + rollupIndex·2^32 + leafIndex`
    (the rollup index is not encoded when the mainnet flag is set) -/
theorem C19_layout (m : Bool) (r l : Nat) (hr : r < 2^32) (hl : l < 2^32) :
    generate m r l = (if m then 2^64 else r * 2^32) + l := by
  rw [generate_eq, Nat.mod_eq_of_lt hr, Nat.mod_eq_of_lt hl]

theorem sub_sub_le (n m : Nat) : n - (n - m) ≤ m :=
  Nat.sub_le_iff_le_add'.mpr (Nat.le_add_of_sub_le (Nat.le_refl _))

/-- `DecodeGlobalIndex` never panics and returns: flag = "the value is exactly 9 bytes long",
    rollup = bits 32..63, leaf = bits 0..31 — for **every** input, canonical or not. -/
theorem decode_spec (x : Nat) :
    decode x = some (decide ((beBytes x).length = 9), (x / 2^32) % 2^32, x % 2^32) := by
  have hb := isBytes_beBytes x
  unfold decode
  simp only
  by_cases h0 : (beBytes x).length = 0
  · have hx : x = 0 := Nat.lt_one_iff.mp ((beBytes_length_le_iff x 0).mp (Nat.le_of_eq h0))
    subst hx
    rfl
  · -- `bs[l-8 : l-4]` is the slice of digits 4..7, `bs[l-4 :]` that of digits 0..3; `rw` closes the goal by `rfl`
    rw [if_neg h0, ← List.drop_take, bytesToU32_of_le, bytesToU32_of_le, ofBE_slice hb, (ofBE_take_drop hb 4).2,
      ofBE_beBytes]
    · rw [List.length_drop]
      exact sub_sub_le ..
    · rw [List.length_drop, List.length_take_of_le (Nat.sub_le ..)]
      exact sub_sub_le ..

theorem length_nine_iff (x : Nat) : (beBytes x).length = 9 ↔ (2^64 ≤ x ∧ x < 2^72) := by
  have : (beBytes x).length = 9 ↔ ¬ (beBytes x).length ≤ 8 ∧ (beBytes x).length ≤ 9 := by omega
  rw [this, beBytes_length_le_iff, beBytes_length_le_iff, Nat.not_lt]

theorem div_mod_add_of_lt {p l q a : Nat} (h : l < p) (hq : q = a * p) : (q + l) / p = a ∧ (q + l) % p = l :=
  (Nat.div_mod_unique (Nat.zero_lt_of_lt h)).mpr ⟨by rw [hq, Nat.add_comm, Nat.mul_comm], h⟩

theorem mul_add_lt_sq {p a l : Nat} (ha : a < p) (hl : l < p) : a * p + l < p * p :=
  (Nat.div_lt_iff_lt_mul (Nat.zero_lt_of_lt hl)).mp ((div_mod_add_of_lt hl rfl).1.symm ▸ ha)

/-- compose then decompose returns the same triple (rollup index 0 for mainnet) -/
theorem C19_roundtrip (m : Bool) (r l : Nat) (hr : r < 2^32) (hl : l < 2^32) :
    decode (generate m r l) = some (m, if m then 0 else r, l) := by
  rw [decode_spec, C19_layout m r l hr hl]
  cases m
  · obtain ⟨hd, hm⟩ := div_mod_add_of_lt (a := r) hl rfl
    rw [if_neg Bool.false_ne_true, if_neg Bool.false_ne_true, hd, hm, Nat.mod_eq_of_lt hr,
      decide_eq_false fun h => Nat.not_le.mpr (mul_add_lt_sq hr hl) ((length_nine_iff _).mp h).1]
  · obtain ⟨hd, hm⟩ := div_mod_add_of_lt (q := 2^64) hl (Nat.pow_add 2 32 32)
    rw [if_pos rfl, if_pos rfl, hd, hm, Nat.mod_self, decide_eq_true ((length_nine_iff _).mpr
      ⟨Nat.le_add_right .., Nat.lt_of_lt_of_le (Nat.add_lt_add_left hl _) (by decide)⟩)]

/-- every canonical on-chain value survives decode → re-encode unchanged; this is what makes all
    consumers (which re-encode the decoded triple) carry the on-chain value itself -/
theorem C19_canonical (x : Nat) (hc : Canonical x) :
    ∃ m r l, decode x = some (m, r, l) ∧ r < 2^32 ∧ l < 2^32 ∧ generate m r l = x := by
  have hr := Nat.mod_lt (x / 2^32) (Nat.two_pow_pos 32)
  have hl := Nat.mod_lt x (Nat.two_pow_pos 32)
  refine ⟨_, _, _, decode_spec x, hr, hl, ?_⟩
  rw [C19_layout _ _ _ hr hl]
  rcases hc with h | ⟨h1, h2⟩
  · rw [decide_eq_false fun h9 => Nat.not_le.mpr h ((length_nine_iff x).mp h9).1, if_neg Bool.false_ne_true,
      Nat.mod_eq_of_lt (Nat.div_lt_of_lt_mul (Nat.pow_add 2 32 32 ▸ h)), Nat.div_add_mod']
  · obtain ⟨d, rfl⟩ := Nat.exists_eq_add_of_le h1
    have hd := Nat.lt_of_add_lt_add_left h2
    rw [decide_eq_true ((length_nine_iff _).mpr ⟨h1, Nat.lt_of_lt_of_le h2 (by decide)⟩), if_pos rfl,
      (div_mod_add_of_lt hd (Nat.pow_add 2 32 32)).2]

/-- every place that carries a claim's global index carries the same value: for a canonical
    on-chain value `x` the certificate field decodes `x`, the commitment input and the FEP chunk
    are the 32-byte little-endian encoding of `x`, the wire and prover messages its 32-byte
    big-endian encoding, and the optimistic-mode signed commitment (`optimistichash`) again its 32-byte little-endian
    encoding. -/
theorem C19_consumers (x : Nat) (hc : Canonical x) :
    ∃ c, consumers x = some c ∧
      generate c.certField.1 c.certField.2.1 c.certField.2.2 = x ∧
      ofLE c.hashInput = x ∧ ofLE c.fepChunk = x ∧ ofBE c.wire = x ∧ ofBE c.prover = x ∧ ofLE c.optInput = x ∧
      c.hashInput.length = 32 ∧ c.wire.length = 32 := by
  obtain ⟨m, r, l, hd, _, _, hg⟩ := C19_canonical x hc
  have hx : x < 2^256 := by
    rcases hc with h | ⟨_, h⟩
    · exact Nat.lt_of_lt_of_le h (by decide)
    · exact Nat.lt_of_lt_of_le h (by decide)
  refine ⟨?c, ?eq, ?_⟩
  case eq =>
    simp only [consumers, hd]
    rfl
  · simp only [hg]
    exact ⟨trivial, ofLE_bigToLE32 hx, ofLE_bigToLE32 hx, ofBE_bigToHash hx, ofBE_bigToHash hx, ofLE_bigToLE32 hx,
      bigToLE32_length x, bigToHash_length x⟩

/-- non-vacuity: concrete canonical values on both sides of the flag, and a round trip at the
    uint32 boundary -/
example : Canonical (2^64 + 7) ∧ Canonical (5 * 2^32 + 7) ∧ ¬ Canonical (2^64 + 2^32) := by
  unfold Canonical
  omega
example : decode (generate false (2^32-1) (2^32-1)) = some (false, 2^32-1, 2^32-1) :=
  C19_roundtrip false _ _ (by decide) (by decide)
/-- non-canonical inputs are characterised, not hidden: a mainnet-flagged value with a non-zero
    rollup part decodes to that rollup part (and is then re-encoded *without* it). -/
example : decode (2^64 + 3 * 2^32 + 1) = some (true, 3, 1) := by
  rw [decode_spec, decide_eq_true ((length_nine_iff _).mpr (by decide))]

end Aggkit.GlobalIndex
