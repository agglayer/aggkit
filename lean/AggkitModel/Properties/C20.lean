import AggkitModel.Model.ClaimTrace
/-
C20 — claim details are taken only from the matching, non-reverted bridge call; when the transaction
contains no such call nothing is recorded and an error is raised. All call trees: any depth, any fan-out,
reverted frames anywhere.
-/
namespace Aggkit.ClaimTrace

theorem live_def (f : Frame) : live f = if f.err then [] else f :: liveL f.calls := by
  cases f with
  | mk e b s p cs => cases e <;> rfl

theorem liveL_cons (f : Frame) (fs : List Frame) : liveL (f :: fs) = live f ++ liveL fs := by rw [liveL]

theorem liveL_singleton (f : Frame) : liveL [f] = live f := by rw [liveL_cons, liveL, List.append_nil]

theorem size_def (f : Frame) : size f = 1 + sizeL f.calls := by
  cases f
  rw [size, Frame.calls]

/-- `findCall` pushes the non-reverted calls of the popped frame one by one, so the last call ends up on top;
    induction over the calls with the stack below them left general -/
theorem mem_liveL_push (x : Frame) (cs rest : List Frame) :
    x ∈ liveL ((cs.filter (fun c => !c.err)).reverse ++ rest) ↔ x ∈ liveL cs ∨ x ∈ liveL rest := by
  induction cs generalizing rest with
  | nil => simp [liveL]
  | cons c cs ih =>
    cases h : c.err
    · rw [List.filter_cons_of_pos (by simp [h]), List.reverse_cons, List.append_assoc, ih]
      simp only [List.singleton_append, liveL_cons, List.mem_append, or_left_comm, or_assoc]
    · rw [List.filter_cons_of_neg (by simp [h]), ih, liveL_cons, live_def, h]
      rfl

theorem sizeL_push_le (cs rest : List Frame) :
    sizeL ((cs.filter (fun c => !c.err)).reverse ++ rest) ≤ sizeL cs + sizeL rest := by
  induction cs generalizing rest with
  | nil => simp [sizeL]
  | cons c cs ih =>
    cases h : c.err
    · rw [List.filter_cons_of_pos (by simp [h]), List.reverse_cons, List.append_assoc, List.singleton_append]
      have := ih (c :: rest)
      simp only [sizeL] at this ⊢
      omega
    · rw [List.filter_cons_of_neg (by simp [h])]
      have := ih rest
      simp only [sizeL] at this ⊢
      omega

/-- **the search, on any stack with enough fuel**: the result is what the callback makes of some live call to the
    bridge, or `notFound` when the callback passes over every one of them. (Which of several such calls is taken
    depends on the order of the stack and is not part of the property.) -/
theorem dfs_spec (gi : Nat) (fuel : Nat) (st : List Frame) (hs : sizeL st ≤ fuel) :
    (∃ f ∈ liveL st, f.toBridge = true ∧ tryDecode gi f = some (dfs gi fuel st)) ∨
    (dfs gi fuel st = .notFound ∧ ∀ f ∈ liveL st, f.toBridge = true → tryDecode gi f = none) := by
  induction fuel generalizing st with
  | zero =>
    cases st with
    | nil => exact .inr ⟨rfl, nofun⟩
    | cons f rest =>
      rw [sizeL, size_def] at hs
      omega
  | succ fuel ih =>
    cases st with
    | nil => exact .inr ⟨rfl, nofun⟩
    | cons f rest =>
      rw [sizeL, size_def] at hs
      rw [dfs]
      cases he : f.err
      · -- `f` is live: it is looked at, and the search goes on in the stack `next` with its calls pushed
        have hm (g : Frame) : g ∈ liveL (f :: rest) ↔
            g = f ∨ g ∈ liveL ((f.calls.filter (fun c => !c.err)).reverse ++ rest) := by
          rw [mem_liveL_push, liveL_cons, live_def, he]
          simp
        have hsz := sizeL_push_le f.calls rest
        have ih := ih ((f.calls.filter (fun c => !c.err)).reverse ++ rest) (by omega)
        generalize (f.calls.filter (fun c => !c.err)).reverse ++ rest = next at hm ih ⊢
        have hcont (hf : f.toBridge = true → tryDecode gi f = none) :
            (∃ g ∈ liveL (f :: rest), g.toBridge = true ∧ tryDecode gi g = some (dfs gi fuel next)) ∨
            (dfs gi fuel next = .notFound ∧ ∀ g ∈ liveL (f :: rest), g.toBridge = true → tryDecode gi g = none) := by
          rcases ih with ⟨g, hg, r⟩ | ⟨hn, hall⟩
          · exact .inl ⟨g, (hm g).2 (.inr hg), r⟩
          · exact .inr ⟨hn, fun g hg => ((hm g).1 hg).elim (fun e => e ▸ hf) (hall g)⟩
        cases hb : f.toBridge
        · exact hcont (by simp [hb])
        · cases hd : tryDecode gi f with
          | none => exact hcont fun _ => hd
          | some r => exact .inl ⟨f, (hm f).2 (.inl rfl), hb, hd⟩
      · rw [show liveL (f :: rest) = liveL rest by rw [liveL_cons, live_def, he, if_pos rfl, List.nil_append]]
        exact ih rest (by omega)

/-- the same for `setClaimCalldata`: a reverted root has no live frame -/
theorem setClaimCalldata_spec (gi : Nat) (root : Frame) :
    (∃ f ∈ live root, f.toBridge = true ∧ tryDecode gi f = some (setClaimCalldata gi root)) ∨
    ((setClaimCalldata gi root = .notFound ∨ setClaimCalldata gi root = .rootReverted) ∧
      ∀ f ∈ live root, f.toBridge = true → tryDecode gi f = none) := by
  fun_cases setClaimCalldata gi root
  next hr => exact .inr ⟨.inr rfl, by simp [live_def, hr]⟩
  next =>
    have := dfs_spec gi (size root + 1) [root] (by simp [sizeL])
    rw [liveL_singleton] at this
    exact this.imp_right (.imp_left .inl)

theorem tryDecode_claim (gi : Nat) {f : Frame} {g id : Nat} {m : Bool} (hp : f.payload = .claim g id m) :
    tryDecode gi f = if g = gi then some (.ok id f.sender m) else none := by rw [tryDecode, hp]

/-- the property's own restriction: every (live) call addressed to the bridge is a claim call -/
def OnlyClaimCalls (st : List Frame) : Prop :=
  ∀ f ∈ liveL st, f.toBridge = true → ∃ g id m, f.payload = .claim g id m

theorem tryDecode_onlyClaims {gi : Nat} {root f : Frame} (hoc : OnlyClaimCalls [root]) (hf : f ∈ live root)
    (hb : f.toBridge = true) {r : Res} (hd : tryDecode gi f = some r) :
    ∃ id m, f.payload = .claim gi id m ∧ r = .ok id f.sender m := by
  obtain ⟨g, id, m, hp⟩ := hoc f (liveL_singleton root ▸ hf) hb
  rw [tryDecode_claim gi hp] at hd
  split at hd
  next hg => exact ⟨id, m, hg ▸ hp, (Option.some.inj hd).symm⟩
  next => cases hd

/-- **C20 soundness**: whatever is recorded for the claim comes from a call to the bridge with the
    event's global index that is live (not reverted, nor inside a reverted call) — for every call tree.
    No hypothesis on the other calls. -/
theorem C20_sound (gi : Nat) (root : Frame) (id s : Nat) (m : Bool)
    (h : setClaimCalldata gi root = .ok id s m) :
    ∃ f ∈ live root, f.toBridge = true ∧ f.payload = .claim gi id m ∧ f.sender = s := by
  rcases setClaimCalldata_spec gi root with ⟨f, hf, hb, hd⟩ | ⟨h', _⟩
  · refine ⟨f, hf, hb, ?_⟩
    rw [h] at hd
    revert hd
    fun_cases tryDecode gi f <;> intro hd
    case case1 hp =>
      cases hd
      exact ⟨hp, rfl⟩
    all_goals cases hd
  · rw [h] at h'
    exact h'.elim nofun nofun

/-- **C20 completeness**: if such a call exists (and every live call to the bridge is a claim call) the
    details of one of them are recorded -/
theorem C20_complete (gi : Nat) (root : Frame) (hoc : OnlyClaimCalls [root])
    (h : ∃ f ∈ live root, f.toBridge = true ∧ ∃ id m, f.payload = .claim gi id m) :
    ∃ id s m, setClaimCalldata gi root = .ok id s m := by
  rcases setClaimCalldata_spec gi root with ⟨f, hf, hb, hd⟩ | ⟨_, hall⟩
  · obtain ⟨id, m, _, e⟩ := tryDecode_onlyClaims hoc hf hb hd
    exact ⟨id, f.sender, m, e⟩
  · obtain ⟨f, hf, hb, id, m, hp⟩ := h
    have := hall f hf hb
    rw [tryDecode_claim gi hp, if_pos rfl] at this
    cases this

/-- **C20 none**: when the transaction contains no such call, nothing is recorded and an error is raised -/
theorem C20_none (gi : Nat) (root : Frame) (hoc : OnlyClaimCalls [root])
    (h : ¬ ∃ f ∈ live root, f.toBridge = true ∧ ∃ id m, f.payload = .claim gi id m) :
    setClaimCalldata gi root = .notFound ∨ setClaimCalldata gi root = .rootReverted := by
  rcases setClaimCalldata_spec gi root with ⟨f, hf, hb, hd⟩ | ⟨hres, _⟩
  · obtain ⟨id, m, hp, _⟩ := tryDecode_onlyClaims hoc hf hb hd
    exact absurd ⟨f, hf, hb, id, m, hp⟩ h
  · exact hres

/-- non-vacuity: a tree with a reverted wrapper around a matching call, and a live matching call -/
example : setClaimCalldata 5
    (.mk false false 1 .unknown
      [ .mk true false 2 .unknown [ .mk false true 3 (.claim 5 11 false) [] ],
        .mk false false 4 .unknown [ .mk false true 6 (.claim 7 12 true) [], .mk false true 8 (.claim 5 13 true) [] ] ])
    = .ok 13 8 true := by decide

end Aggkit.ClaimTrace
